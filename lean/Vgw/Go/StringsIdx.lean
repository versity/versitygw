/-
  More of Go's package `strings`, in the index-returning forms the request-path code uses:
  LastIndex (−1 = absent), Cut / SplitN(…, 2) with a one-byte separator, TrimSpace.  Core-only.
-/
import Vgw.Go.Bytes
namespace Vgw.Go

/-- `strings.LastIndex(s, needle)`; −1 when absent (`needle = ""` ↦ `len(s)`). -/
def lastIndexOf (needle : Bytes) : Bytes → Int
  | [] => if needle = [] then 0 else -1
  | c :: s =>
    let r := lastIndexOf needle s
    if 0 ≤ r then r + 1 else if needle.isPrefixOf (c :: s) then 0 else -1

/-- `strings.Cut(s, string(sep))` -/
def cutByte (sep : UInt8) : Bytes → Option (Bytes × Bytes)
  | [] => none
  | c :: s =>
    if c = sep then some ([], s)
    else match cutByte sep s with
      | some (a, b) => some (c :: a, b)
      | none => none

/-- `strings.SplitN(s, string(sep), 2)` -/
def splitN2 (sep : UInt8) (s : Bytes) : List Bytes :=
  match cutByte sep s with
  | some (a, b) => [a, b]
  | none => [s]

/-- ASCII white space of `unicode.IsSpace`: \t \n \v \f \r and space -/
def isAsciiSpace (c : UInt8) : Bool := (9 ≤ c && c ≤ 13) || c == 32

/-- UTF-8 encodings of the non-ASCII runes with `unicode.IsSpace`:
U+0085, U+00A0, U+1680, U+2000–U+200A, U+2028, U+2029, U+202F, U+205F, U+3000 -/
def uniSpaces : List Bytes :=
  [[0xC2, 0x85], [0xC2, 0xA0], [0xE1, 0x9A, 0x80],
   [0xE2, 0x80, 0x80], [0xE2, 0x80, 0x81], [0xE2, 0x80, 0x82], [0xE2, 0x80, 0x83], [0xE2, 0x80, 0x84],
   [0xE2, 0x80, 0x85], [0xE2, 0x80, 0x86], [0xE2, 0x80, 0x87], [0xE2, 0x80, 0x88], [0xE2, 0x80, 0x89],
   [0xE2, 0x80, 0x8A], [0xE2, 0x80, 0xA8], [0xE2, 0x80, 0xA9], [0xE2, 0x80, 0xAF], [0xE2, 0x81, 0x9F],
   [0xE3, 0x80, 0x80]]

/-- length of the white-space rune `s` starts with (0 = none) -/
def spacePrefixLen (s : Bytes) : Nat :=
  match s with
  | [] => 0
  | c :: _ =>
    if isAsciiSpace c then 1
    else match uniSpaces.find? (fun u => u.isPrefixOf s) with
      | some u => u.length
      | none => 0

def trimLeftFuel : Nat → Bytes → Bytes
  | 0, s => s
  | f + 1, s =>
    let n := spacePrefixLen s
    if n = 0 then s else trimLeftFuel f (s.drop n)

/-- `strings.TrimLeftFunc(s, unicode.IsSpace)` -/
def trimLeft (s : Bytes) : Bytes := trimLeftFuel s.length s

/-- length of the white-space rune `s` ends with (0 = none); argument is the REVERSED string -/
def spaceSuffixLenRev (r : Bytes) : Nat :=
  match r with
  | [] => 0
  | c :: _ =>
    if isAsciiSpace c then 1
    else match uniSpaces.find? (fun u => u.reverse.isPrefixOf r) with
      | some u => u.length
      | none => 0

def trimRightFuel : Nat → Bytes → Bytes
  | 0, r => r
  | f + 1, r =>
    let n := spaceSuffixLenRev r
    if n = 0 then r else trimRightFuel f (r.drop n)

/-- `strings.TrimSpace(s)` -/
def trimSpace (s : Bytes) : Bytes :=
  let l := trimLeft s
  (trimRightFuel l.length l.reverse).reverse

theorem cutByte_lengths (sep : UInt8) : ∀ (s a b : Bytes), cutByte sep s = some (a, b) →
    a.length + 1 + b.length = s.length := by
  intro s
  fun_induction cutByte sep s with
  | case1 => intro a b h; cases h
  | case2 s => intro a b h; cases h; simp; omega
  | case3 c s _ a' b' hs ih => intro a b h; cases h; have := ih a' b' hs; simp; omega
  | case4 => intro a b h; cases h

theorem splitN2_length (sep : UInt8) (s : Bytes) : (splitN2 sep s).length = 1 ∨ (splitN2 sep s).length = 2 := by
  unfold splitN2; split <;> simp

theorem lastIndexOf_range (needle : Bytes) : ∀ s : Bytes, lastIndexOf needle s = -1 ∨
    (0 ≤ lastIndexOf needle s ∧ lastIndexOf needle s + needle.length ≤ s.length) := by
  intro s
  fun_induction lastIndexOf needle s with
  | case1 h => subst h; exact .inr ⟨Int.le_refl _, Int.le_refl _⟩
  | case2 => exact .inl rfl
  | case3 c s r hr ih =>
    have := ih.resolve_left (by omega)
    rw [List.length_cons]
    exact .inr (by omega)
  | case4 c s r hr hp ih =>
    have := (List.isPrefixOf_iff_prefix.mp hp).length_le
    exact .inr ⟨Int.le_refl _, by omega⟩
  | case5 => exact .inl rfl

end Vgw.Go
