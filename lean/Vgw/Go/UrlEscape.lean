/-
  `net/url.QueryUnescape` (go1.23 src/net/url/url.go, unescape with mode encodeQueryComponent):
  `%XX` ↦ the byte, `+` ↦ space, every other byte itself; error (`none`) when a `%` is not followed
  by two hex digits.  Core-only.
-/
import Vgw.Go.Bytes
namespace Vgw.Go

/-- `ishex` / `unhex` -/
def unhexByte (c : UInt8) : Option Nat :=
  if 48 ≤ c ∧ c ≤ 57 then some (c.toNat - 48)
  else if 97 ≤ c ∧ c ≤ 102 then some (c.toNat - 87)
  else if 65 ≤ c ∧ c ≤ 70 then some (c.toNat - 55)
  else none

/-- `url.QueryUnescape(s)`; `none` = EscapeError -/
def queryUnescape : Bytes → Option Bytes
  | [] => some []
  | c :: rest =>
    if c = 37 then                                   -- '%'
      match rest with
      | a :: b :: rest' =>
        match unhexByte a, unhexByte b with
        | some x, some y => (queryUnescape rest').map (UInt8.ofNat (x * 16 + y) :: ·)
        | _, _ => none
      | _ => none
    else if c = 43 then (queryUnescape rest).map (32 :: ·)   -- '+'
    else (queryUnescape rest).map (c :: ·)

/-- decoding never lengthens a string -/
theorem queryUnescape_length_le (s : Bytes) : ∀ r, queryUnescape s = some r → r.length ≤ s.length := by
  fun_induction queryUnescape s with
  | case1 => intro r h; cases h; exact Nat.le_refl _
  | case2 a b rest' x y _ _ ih =>
    intro r h
    obtain ⟨q, hq, rfl⟩ := Option.map_eq_some_iff.mp h
    exact Nat.succ_le_succ (Nat.le_trans (ih q hq) (Nat.le_add_right _ 2))
  | case3 => intro r h; cases h
  | case4 => intro r h; cases h
  | case5 rest _ ih =>
    intro r h
    obtain ⟨q, hq, rfl⟩ := Option.map_eq_some_iff.mp h
    exact Nat.succ_le_succ (ih q hq)
  | case6 c rest _ _ ih =>
    intro r h
    obtain ⟨q, hq, rfl⟩ := Option.map_eq_some_iff.mp h
    exact Nat.succ_le_succ (ih q hq)

theorem queryUnescape_length : ∀ (n : Nat) (s r : Bytes), s.length ≤ n → queryUnescape s = some r → r.length ≤ s.length :=
  fun _ s r _ => queryUnescape_length_le s r

end Vgw.Go
