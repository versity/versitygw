/-
  Go `string` / `[]byte` as `List UInt8`, and the fragments of package `strings`
  that the modelled code uses.  Core-only (no Mathlib): the driver links this.
-/
namespace Vgw

abbrev Bytes := List UInt8

namespace Bytes

/-- ASCII literal → bytes (used for constants such as "s3:GetObject"; reducible by `decide`).
Only meaningful for ASCII strings. -/
def ofString (s : String) : Bytes := s.toList.map fun c => c.toNat.toUInt8

def hexDigit (n : Nat) : Char :=
  if n < 10 then Char.ofNat (48 + n) else Char.ofNat (87 + n)

def toHex (b : Bytes) : String :=
  String.ofList (b.flatMap fun c => [hexDigit (c.toNat / 16), hexDigit (c.toNat % 16)])

def hexVal (c : Char) : Option Nat :=
  if '0' ≤ c ∧ c ≤ '9' then some (c.toNat - 48)
  else if 'a' ≤ c ∧ c ≤ 'f' then some (c.toNat - 87)
  else if 'A' ≤ c ∧ c ≤ 'F' then some (c.toNat - 55)
  else none

def ofHexAux : List Char → Option Bytes
  | [] => some []
  | a :: b :: rest =>
    match hexVal a, hexVal b, ofHexAux rest with
    | some x, some y, some r => some (UInt8.ofNat (x * 16 + y) :: r)
    | _, _, _ => none
  | [_] => none

/-- "-" encodes the empty string in the line protocol. -/
def ofHex (s : String) : Option Bytes :=
  if s = "-" then some [] else ofHexAux s.toList

def toHexArg (b : Bytes) : String := if b.isEmpty then "-" else toHex b

end Bytes

/-! ### strings.Split with a one-byte separator

`strings.Split(s, sep)` with `len(sep) = 1` returns the (always non-empty) list of
fields between occurrences of `sep`. -/

def splitOn (sep : UInt8) : Bytes → List Bytes
  | [] => [[]]
  | c :: cs =>
    if c = sep then [] :: splitOn sep cs
    else match splitOn sep cs with
      | [] => [[c]]          -- unreachable (splitOn is never empty); kept total
      | f :: fs => (c :: f) :: fs

def joinWith (sep : UInt8) : List Bytes → Bytes
  | [] => []
  | [f] => f
  | f :: g :: fs => f ++ sep :: joinWith sep (g :: fs)

theorem splitOn_cons_sep (sep : UInt8) (cs : Bytes) : splitOn sep (sep :: cs) = [] :: splitOn sep cs := by
  rw [splitOn, if_pos rfl]

theorem splitOn_cons_ne {sep c : UInt8} {cs f : Bytes} {fs : List Bytes} (h : c ≠ sep)
    (hs : splitOn sep cs = f :: fs) : splitOn sep (c :: cs) = (c :: f) :: fs := by
  rw [splitOn, if_neg h, hs]

theorem splitOn_eq_cons (sep : UInt8) (s : Bytes) : ∃ f fs, splitOn sep s = f :: fs := by
  induction s with
  | nil => exact ⟨[], [], rfl⟩
  | cons c cs ih =>
    obtain ⟨f, fs, hs⟩ := ih
    by_cases h : c = sep
    · exact ⟨[], _, by rw [h, splitOn_cons_sep]⟩
    · exact ⟨_, _, splitOn_cons_ne h hs⟩

theorem splitOn_ne_nil (sep : UInt8) (s : Bytes) : splitOn sep s ≠ [] := by
  obtain ⟨f, fs, h⟩ := splitOn_eq_cons sep s
  rw [h]; exact List.cons_ne_nil f fs

theorem joinWith_cons (sep : UInt8) (f : Bytes) {fs : List Bytes} (h : fs ≠ []) :
    joinWith sep (f :: fs) = f ++ sep :: joinWith sep fs := by
  cases fs with
  | nil => exact absurd rfl h
  | cons g gs => rfl

theorem joinWith_append (sep : UInt8) {ns ms : List Bytes} (hn : ns ≠ []) (hm : ms ≠ []) :
    joinWith sep (ns ++ ms) = joinWith sep ns ++ sep :: joinWith sep ms := by
  induction ns with
  | nil => exact absurd rfl hn
  | cons n ns ih =>
    cases ns with
    | nil => exact joinWith_cons sep n hm
    | cons n' ns' =>
      have hne := List.cons_ne_nil n' ns'
      rw [List.cons_append, joinWith_cons sep n (List.append_ne_nil_of_left_ne_nil hne ms), ih hne,
        joinWith_cons sep n hne, List.append_assoc]
      rfl

theorem join_splitOn (sep : UInt8) (s : Bytes) : joinWith sep (splitOn sep s) = s := by
  induction s with
  | nil => rfl
  | cons c cs ih =>
    by_cases h : c = sep
    · rw [h, splitOn_cons_sep, joinWith_cons sep [] (splitOn_ne_nil sep cs), ih]; rfl
    · obtain ⟨f, fs, hs⟩ := splitOn_eq_cons sep cs
      rw [splitOn_cons_ne h hs, ← ih, hs]
      cases fs <;> rfl

theorem splitOn_no_sep (sep : UInt8) (s : Bytes) : ∀ f ∈ splitOn sep s, sep ∉ f := by
  induction s with
  | nil => intro f hf; rw [List.mem_singleton.mp hf]; exact List.not_mem_nil
  | cons c cs ih =>
    by_cases h : c = sep
    · rw [h, splitOn_cons_sep, List.forall_mem_cons]
      exact ⟨List.not_mem_nil, ih⟩
    · obtain ⟨g, gs, hs⟩ := splitOn_eq_cons sep cs
      rw [splitOn_cons_ne h hs, List.forall_mem_cons, List.mem_cons, not_or]
      rw [hs, List.forall_mem_cons] at ih
      exact ⟨⟨Ne.symm h, ih.1⟩, ih.2⟩

theorem splitOn_of_not_mem (sep : UInt8) (s : Bytes) (h : sep ∉ s) : splitOn sep s = [s] := by
  induction s with
  | nil => rfl
  | cons c cs ih =>
    rw [List.mem_cons, not_or] at h
    exact splitOn_cons_ne (Ne.symm h.1) (ih h.2)

theorem splitOn_append (sep : UInt8) (a b : Bytes) (h : sep ∉ a) :
    splitOn sep (a ++ sep :: b) = a :: splitOn sep b := by
  induction a with
  | nil => exact splitOn_cons_sep sep b
  | cons c cs ih =>
    rw [List.mem_cons, not_or] at h
    exact splitOn_cons_ne (Ne.symm h.1) (ih h.2)

end Vgw
