/-
  Go run-time panics as explicit outcomes.  Every operation of the modelled code that the Go
  run time checks — index `a[i]`, slice `a[i:j]`, dereference of a possibly-nil pointer,
  `make` with a computed size — is written with one of the combinators below and yields
  `Except Panic α`; a model that uses them is a *checked* transcription: it cannot silently assume
  an index is in range.  Core-only.
-/
import Vgw.Go.Bytes
namespace Vgw.Go

inductive Panic where
  | index (i : Int) (len : Nat)          -- "index out of range [i] with length len"
  | slice (lo hi : Int) (len : Nat)      -- "slice bounds out of range"
  | nilDeref                             -- "invalid memory address or nil pointer dereference"
  | makeLen (n : Int)                    -- "makeslice: len out of range"
  | divZero
  deriving Repr, DecidableEq

abbrev Chk (α : Type) := Except Panic α

/-- decidable equality of outcomes (named inside this namespace: no clash with another derivation) -/
instance decEqExcept {ε α : Type} [DecidableEq ε] [DecidableEq α] : DecidableEq (Except ε α)
  | .ok a, .ok b => if h : a = b then isTrue (by rw [h]) else isFalse (by intro e; cases e; exact h rfl)
  | .error a, .error b => if h : a = b then isTrue (by rw [h]) else isFalse (by intro e; cases e; exact h rfl)
  | .ok _, .error _ => isFalse (by intro e; cases e)
  | .error _, .ok _ => isFalse (by intro e; cases e)

/-- `a[i]` -/
def idx {α : Type} (a : List α) (i : Int) : Chk α :=
  if 0 ≤ i then
    match a[i.toNat]? with
    | some x => .ok x
    | none => .error (.index i a.length)
  else .error (.index i a.length)

/-- `a[lo:]` -/
def sliceFrom {α : Type} (a : List α) (lo : Int) : Chk (List α) :=
  if 0 ≤ lo ∧ lo ≤ a.length then .ok (a.drop lo.toNat) else .error (.slice lo a.length a.length)

/-- `a[:hi]` -/
def sliceTo {α : Type} (a : List α) (hi : Int) : Chk (List α) :=
  if 0 ≤ hi ∧ hi ≤ a.length then .ok (a.take hi.toNat) else .error (.slice 0 hi a.length)

/-- `a[lo:hi]` -/
def slice {α : Type} (a : List α) (lo hi : Int) : Chk (List α) :=
  if 0 ≤ lo ∧ lo ≤ hi ∧ hi ≤ a.length then .ok ((a.take hi.toNat).drop lo.toNat)
  else .error (.slice lo hi a.length)

/-- `*p` for an optional (possibly nil) pointer -/
def deref {α : Type} : Option α → Chk α
  | some x => .ok x
  | none => .error .nilDeref

/-- largest `make([]byte, n)` the run time accepts on linux/amd64 (maxAlloc = 2^48) -/
def maxAlloc : Int := 281474976710656

/-- `make([]byte, n)`: the size of the allocation, or the run-time panic -/
def makeBytes (n : Int) : Chk Nat :=
  if 0 ≤ n ∧ n ≤ maxAlloc then .ok n.toNat else .error (.makeLen n)

/-- the outcome carries a value (no run-time panic) -/
def noPanic {α : Type} : Chk α → Bool
  | .ok _ => true
  | .error _ => false

theorem idx_ok {α : Type} (a : List α) (i : Int) (h0 : 0 ≤ i) (h : i.toNat < a.length) :
    idx a i = .ok (a[i.toNat]'h) := by
  unfold idx
  rw [if_pos h0, List.getElem?_eq_getElem h]

theorem idx_zero_cons {α : Type} (x : α) (xs : List α) : idx (x :: xs) 0 = .ok x := rfl
theorem idx_one_cons {α : Type} (x y : α) (xs : List α) : idx (x :: y :: xs) 1 = .ok y := rfl
theorem idx_nil {α : Type} (i : Int) : noPanic (idx ([] : List α) i) = false := by
  unfold idx; split <;> simp [noPanic]

theorem sliceFrom_ok {α : Type} (a : List α) (lo : Int) (h0 : 0 ≤ lo) (h : lo ≤ a.length) :
    sliceFrom a lo = .ok (a.drop lo.toNat) := by
  unfold sliceFrom; rw [if_pos ⟨h0, h⟩]

theorem sliceTo_ok {α : Type} (a : List α) (hi : Int) (h0 : 0 ≤ hi) (h : hi ≤ a.length) :
    sliceTo a hi = .ok (a.take hi.toNat) := by
  unfold sliceTo; rw [if_pos ⟨h0, h⟩]

theorem makeBytes_ok (n : Int) (h0 : 0 ≤ n) (h : n ≤ maxAlloc) : makeBytes n = .ok n.toNat := by
  unfold makeBytes; rw [if_pos ⟨h0, h⟩]

end Vgw.Go
