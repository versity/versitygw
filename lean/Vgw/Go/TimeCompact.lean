/-
  `time.Parse` (go1.23 src/time/format.go) specialised to the two layouts the authentication code
  uses: "20060102T150405Z" (iso8601Format) and "20060102" (yyyymmdd).  Only success / failure is
  modelled (the callers use the error, and — for the compact layout — go on to slice the INPUT
  string, which is why its length matters).  Core-only.
-/
import Vgw.Go.Strconv
namespace Vgw.Go.Time
open Vgw

def dval (c : UInt8) : Nat := c.toNat - 48

/-- `getnum(s, fixed)`: one or two leading digits (exactly two when `fixed`) -/
def getnum (s : Bytes) (fixed : Bool) : Option (Nat × Bytes) :=
  match s with
  | [] => none
  | a :: rest =>
    if !isDigit a then none else
    match rest with
    | b :: rest2 =>
      if isDigit b then some (dval a * 10 + dval b, rest2)
      else if fixed then none else some (dval a, rest)
    | [] => if fixed then none else some (dval a, [])

def isLeap (y : Nat) : Bool := y % 4 == 0 && (y % 100 != 0 || y % 400 == 0)

def daysIn (month year : Nat) : Nat :=
  if month = 2 then (if isLeap year then 29 else 28)
  else if month = 4 ∨ month = 6 ∨ month = 9 ∨ month = 11 then 30 else 31

/-- stdLongYear: four digits -/
def getYear (s : Bytes) : Option (Nat × Bytes) :=
  match s with
  | a :: b :: c :: d :: rest =>
    if isDigit a && isDigit b && isDigit c && isDigit d then
      some (dval a * 1000 + dval b * 100 + dval c * 10 + dval d, rest)
    else none
  | _ => none

/-- year, month (1..12), day (two digits; validated at the end) -/
def getYMD (s : Bytes) : Option (Nat × Nat × Nat × Bytes) :=
  match getYear s with
  | none => none
  | some (y, r1) =>
    match getnum r1 true with
    | none => none
    | some (m, r2) =>
      if m = 0 ∨ 12 < m then none else
      match getnum r2 true with
      | none => none
      | some (d, r3) => some (y, m, d, r3)

def dayOk (y m d : Nat) : Bool := 1 ≤ d && d ≤ daysIn m y

/-- `time.Parse("20060102", s)` succeeds -/
def parseYMD (s : Bytes) : Bool :=
  match getYMD s with
  | some (y, m, d, []) => dayOk y m d
  | _ => false

/-- the fractional second `time.Parse` accepts after a seconds field although the layout has none:
`[.,]` followed by at least one digit, then all following digits -/
def skipFrac (s : Bytes) : Bytes :=
  match s with
  | c :: d :: rest => if (c = 46 ∨ c = 44) ∧ isDigit d then rest.dropWhile isDigit else s
  | _ => s

/-- hour (one or two digits, < 24), minute, second (two digits, < 60), optional fraction -/
def getHMS (s : Bytes) : Option Bytes :=
  match getnum s false with
  | none => none
  | some (h, r1) =>
    if 24 ≤ h then none else
    match getnum r1 true with
    | none => none
    | some (mi, r2) =>
      if 60 ≤ mi then none else
      match getnum r2 true with
      | none => none
      | some (sec, r3) => if 60 ≤ sec then none else some (skipFrac r3)

/-- `time.Parse("20060102T150405Z", s)` succeeds -/
def parseCompact (s : Bytes) : Bool :=
  match getYMD s with
  | some (y, m, d, 84 :: r) =>           -- 'T'
    match getHMS r with
    | some [90] => dayOk y m d             -- 'Z', nothing after it
    | _ => false
  | _ => false

theorem getnum_fixed_length (s r : Bytes) (n : Nat) (h : getnum s true = some (n, r)) : s.length = r.length + 2 := by
  revert h
  fun_cases getnum s true
  case case3 => intro h; cases h; rfl
  case case5 hf | case7 hf => exact absurd rfl hf
  all_goals intro h; cases h

theorem getYear_length (s r : Bytes) (y : Nat) (h : getYear s = some (y, r)) : s.length = r.length + 4 := by
  revert h
  fun_cases getYear s
  case case1 => intro h; cases h; rfl
  all_goals intro h; cases h

/-- year + month + day take exactly eight bytes of the input -/
theorem getYMD_length (s r : Bytes) (y m d : Nat) (h : getYMD s = some (y, m, d, r)) : s.length = r.length + 8 := by
  revert h
  fun_cases getYMD s
  case case5 y' r1 hy m' r2 hm _ d' r3 hd =>
    intro h; cases h
    have a := getYear_length s r1 _ hy
    have b := getnum_fixed_length r1 r2 _ hm
    have c := getnum_fixed_length r2 r _ hd
    omega
  all_goals intro h; cases h

/-- what the callers rely on when they write `date[:8]` after a successful parse -/
theorem parseCompact_length (s : Bytes) (h : parseCompact s = true) : 8 ≤ s.length := by
  revert h
  fun_cases parseCompact s
  case case1 y m d r hy _ => intro _; have := getYMD_length s _ y m d hy; omega
  all_goals intro h; cases h

theorem parseYMD_length (s : Bytes) (h : parseYMD s = true) : s.length = 8 := by
  revert h
  fun_cases parseYMD s
  case case1 y m d hy => intro _; exact getYMD_length s _ y m d hy
  case case2 => intro h; cases h

end Vgw.Go.Time
