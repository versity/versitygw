/-
  Open/C05 — for unversioned buckets nothing here is a defect of the code as it is: every clause of C05
  is a theorem of Props/C05.lean for the current code. The one open defect is at the end of the file
  (versioned buckets, `acked_version_lost`: an acknowledged version id can become unreadable).

  What is kept are `example`s about the REGRESSION models (`Variant.old` and its parts), so that the
  behaviour the check must report as a violation, should it ever return, stays documented by a
  witness the kernel evaluates:
    * reads by path (GetObject/HeadObject before 109ae9c): a GET whose stat and attribute reads
      precede an overwrite's publication and whose open follows it answers the body of B with the
      ETag and metadata of A — no single write, not linearizable;
    * publication by remove-then-link (before 4399f3e): a GET between the unlink and the publication
      answers NoSuchKey although the key is only being overwritten — not linearizable either;
    * CopyObject failing on its final stat (before 4e82e48).
  The same schedules run first in the harness (corpus of harness/cmd/vharness/c05.go) against the
  real gateway, where they must now pass.
-/
import Vgw.Props.C05
import Vgw.Props.C05Ver
namespace Vgw.Open.C05
open Vgw.Model.Conc Vgw.Props.C05 Vgw.Spec.Register

/-- write A (the object the key holds at the start) and write B (the overwrite). -/
def wA : Write := { blob := ⟨1, 1⟩, attrs := [(.umeta 0, 1), (.etag, 1)] }
def wB : Write := { blob := ⟨2, 1⟩, attrs := [(.umeta 0, 2), (.etag, 2)] }
def fsA : FS := { inodes := [inodeOf wA], key := some 0 }
def reqsPG : List Req := [{ kind := .put, w := wB }, { kind := .get }]

/-- schedule 1: GET reads stat and every attribute (of A), the PUT runs completely, GET opens (B). -/
def schedTorn : List Nat := List.replicate 12 1 ++ List.replicate 12 0 ++ [1]

/-- schedule 2: the PUT runs up to and including its unlink, GET starts (and sees nothing), the PUT goes on. -/
def schedWindow : List Nat := List.replicate 5 0 ++ [1] ++ List.replicate 4 0

/-- the torn answer: body of B with ETag and user metadata of A. -/
def tornResp : ReadResp :=
  { size := 1, body := some ⟨2, 1⟩, etag := some 1, umeta := [(0, 1)], hdrs := [] }

/-- the regression configurations: reads by path on top of the current publication (the code between
    4399f3e and 109ae9c), and the complete old variant. -/
def byPathCfg (otmp : Bool) : Cfg := { cur otmp with rmode := .byPath }
def oldCfg (otmp : Bool) : Cfg := Variant.old.cfg otmp

/-! ### reads by path: torn answers -/

example : (run (byPathCfg true) (init (byPathCfg true) fsA reqsPG) schedTorn).resp 1 = some (.read tornResp) := by decide +kernel
example : (run (byPathCfg false) (init (byPathCfg false) fsA reqsPG) schedTorn).resp 1 = some (.read tornResp) := by decide +kernel
example : (run (oldCfg true) (init (oldCfg true) fsA reqsPG) schedTorn).resp 1 = some (.read tornResp) := by decide +kernel

/-- the same schedule on the code as it is: the answer is exactly A. -/
example : (run (cur true) (init (cur true) fsA reqsPG) schedTorn).resp 1 = some (.read (observe (inodeOf wA) false)) := by decide +kernel

/-- REGRESSION model "reads by path" violates the single-write clause. -/
example (otmp : Bool) : ¬ get_single_write_full (byPathCfg otmp) := by
  intro hf
  have key : ∀ c : Cfg, (run c (init c fsA reqsPG) schedTorn).resp 1 = some (.read tornResp) → get_single_write_full c → False := by
    intro c hr hf
    obtain ⟨ino, hv, he⟩ := hf fsA reqsPG _ 1 { kind := .get } tornResp (by intro i h; cases h; rfl) (reach_run c _ schedTorn) rfl hr
    have hcases : ino = inodeOf wA ∨ ino = written { kind := .put, w := wB } := by
      rcases hv with h | ⟨rq, hrq, hw, rfl⟩
      · left; simpa [fsA] using h
      · simp only [reqsPG, List.mem_cons, List.not_mem_nil, or_false] at hrq
        rcases hrq with rfl | rfl
        · right; rfl
        · cases hw
    rcases hcases with rfl | rfl
    · revert he; decide +kernel
    · revert he; decide +kernel
  cases otmp
  · exact key _ (by decide +kernel) hf
  · exact key _ (by decide +kernel) hf

/-- REGRESSION model "reads by path" is not linearizable: the torn answer is the observation of
    neither A nor B. -/
example (otmp : Bool) : ¬ linearizable_full (byPathCfg otmp) := by
  intro hfull
  have key : ∀ c : Cfg,
      (let s := run c (init c fsA reqsPG) schedTorn
       (histOf reqsPG s)[1]?.map (fun e => (e.op, e.ret.isSome, e.res)) = some (.read false, true, .value tornResp) ∧
       ((histOf reqsPG s)[0]?.map (·.op)) = some (.write (written { kind := .put, w := wB })) ∧ (histOf reqsPG s).length = 2) →
      linearizable_full c → False := by
    intro c hh hf
    have hlin := hf fsA reqsPG _ (by intro i h; cases h; rfl) (reach_run c _ schedTorn)
    generalize run c (init c fsA reqsPG) schedTorn = s at hh hlin
    obtain ⟨pts, _, _, _, hall, hacc⟩ := hlin
    obtain ⟨h1, h0, hlen⟩ := hh
    cases he1 : (histOf reqsPG s)[1]? with
    | none => rw [he1] at h1; cases h1
    | some e1 =>
      rw [he1] at h1
      simp only [Option.map_some, Option.some.injEq, Prod.mk.injEq] at h1
      obtain ⟨hop1, hret1, hres1⟩ := h1
      have hin : 1 ∈ pts.map (·.2) := hall 1 e1 he1 (by intro hn; rw [hn] at hret1; cases hret1)
      have : accepts observe fsA.cur (pts.filterMap fun p => (histOf reqsPG s)[p.2]?) = false := by
        apply accepts_foreign_false observe [inodeOf wA, written { kind := .put, w := wB }]
        · exact ⟨inodeOf wA, by simp, rfl⟩
        · intro e he
          obtain ⟨p, _, hp⟩ := List.mem_filterMap.1 he
          have hlt : p.2 < 2 := by rw [← hlen]; exact (List.getElem?_eq_some_iff.1 hp).1
          have : p.2 = 0 ∨ p.2 = 1 := Nat.le_one_iff_eq_zero_or_eq_one.1 (Nat.lt_succ_iff.1 hlt)
          rcases this with e0 | e1'
          · rw [e0] at hp; rw [hp] at h0; simp only [Option.map_some, Option.some.injEq] at h0
            rw [h0]; exact ⟨(fun hx => nomatch hx), (fun v hv => by cases hv; simp)⟩
          · rw [e1', he1] at hp; cases hp; rw [hop1]; exact ⟨(fun hx => nomatch hx), (fun v hv => nomatch hv)⟩
        · obtain ⟨p, hp, hp1⟩ := List.mem_map.1 hin
          refine ⟨e1, List.mem_filterMap.2 ⟨p, hp, by rw [hp1]; exact he1⟩, hret1, false, tornResp, hop1, hres1, ?_⟩
          intro v hv
          simp only [List.mem_cons, List.not_mem_nil, or_false] at hv
          rcases hv with rfl | rfl <;> decide +kernel
      rw [this] at hacc; cases hacc
  cases otmp
  · exact key _ (by decide +kernel) hfull
  · exact key _ (by decide +kernel) hfull

/-! ### publication by remove-then-link: the key-missing window -/

example : (run (oldCfg true) (init (oldCfg true) fsA reqsPG) schedWindow).resp 1 = some .noSuchKey := by decide +kernel
example : (run (oldCfg false) (init (oldCfg false) fsA reqsPG) schedWindow).resp 1 = some .noSuchKey := by decide +kernel

/-- the same schedule on the code as it is: the GET finds A. -/
example : (run (cur true) (init (cur true) fsA reqsPG) (schedWindow ++ List.replicate 16 1)).resp 1 =
    some (.read (observe (inodeOf wA) false)) := by decide +kernel

/-- REGRESSION model "remove-then-link" violates the never-missing clause. -/
example (otmp : Bool) : ¬ overwrite_never_missing_full (oldCfg otmp) := by
  intro hfull
  have key : ∀ c : Cfg, (run c (init c fsA reqsPG) schedWindow).resp 1 = some .noSuchKey → overwrite_never_missing_full c → False := by
    intro c hr hf
    exact hf fsA reqsPG _ 1 { kind := .get } (by intro i h; cases h; rfl) (by decide +kernel) (by decide +kernel) (reach_run c _ schedWindow) rfl rfl hr
  cases otmp
  · exact key _ (by decide +kernel) hfull
  · exact key _ (by decide +kernel) hfull

/-! ### CopyObject failing on its final stat -/

/-- REGRESSION model: COPY publishes, a DELETE removes the key, COPY's stat finds nothing → 500. -/
example :
    (run (oldCfg true) (init (oldCfg true) fsA [{ kind := .copy, w := wB }, { kind := .delete }])
      (List.replicate 6 0 ++ [1, 1] ++ [0])).resp 0 = some .err := by decide +kernel

/-- the code as it is answers 200. -/
example :
    (run (cur true) (init (cur true) fsA [{ kind := .copy, w := wB }, { kind := .delete }])
      (List.replicate 9 0 ++ [1, 1] ++ [0])).resp 0 = some .ok := by decide +kernel

end Vgw.Open.C05

/-! ## versioned buckets (`Model.ConcVer`) -/
namespace Vgw.Open.C05Ver
open Vgw.Model.ConcVer

/-- **the code as it is loses an acknowledged version**: two overlapping writes both archive the
object that was current, the first publication is replaced by the second without being archived.
Both writes are acknowledged (ids 2 and 3), id 2 cannot be read. This is the recorded finding
`conc:versioned:version-not-retrievable:*`, reproduced on the real gateway by `./check C05`. -/
theorem acked_version_lost :
    let s := run .byFd (init (some ⟨0, 1⟩) [1, 2]) [0, 1, 0, 1, 0, 1, 0, 1]
    acked s = [2, 3] ∧ readVer s 2 = none ∧ readVer s 3 = some ⟨⟨2, 3⟩, ⟨2, 3⟩⟩ := by decide +kernel

/-- hence the full statement is false for the code as it is. -/
theorem not_noLostVersion :
    ¬ Vgw.Props.C05Ver.NoLostVersion (run .byFd (init (some ⟨0, 1⟩) [1, 2]) [0, 1, 0, 1, 0, 1, 0, 1]) := by
  intro h
  obtain ⟨hacked, hlost, _⟩ := acked_version_lost
  obtain ⟨e, he⟩ := h 2 (by rw [hacked]; exact List.mem_cons_self)
  rw [hlost] at he
  cases he

/-- REGRESSION model `byName` (before 54bf489: size and attribute names taken from the name): the
slower writer archives object 0 with the shape of object 2 — an incomplete (padded / attribute-less)
version file. -/
example : (run .byName (init (some ⟨0, 1⟩) [1, 2]) [0, 1, 1, 1, 0]).arch
    = [⟨⟨0, 1⟩, ⟨2, 2⟩⟩] ∧
    ((run .byName (init (some ⟨0, 1⟩) [1, 2]) [0, 1, 1, 1, 0]).arch.all Ver.complete) = false := by decide +kernel

end Vgw.Open.C05Ver
