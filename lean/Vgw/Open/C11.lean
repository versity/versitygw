/-
  Open findings of C11: the unchanged posix backend violates the full statements of Props/C11.lean.
  The model mirrors the code (tie: step conformance + crash enumeration of the harness), so each negation
  is proved from a concrete witness, which the harness replays on the real gateway
  (known_findings.json, signatures `crash …`).
-/
import Vgw.Props.C11
namespace Vgw.Open.C11
open Vgw.Model.Crash Vgw.Props.C11

/-- a bucket with one object `k` (xattr store) -/
def fsOld : FS := { ents := [(["R", "b"], .dir [("acl", "x")]), (["R", "b", ".sgwtmp"], .dir []),
                             (["R", "b", "k"], .file "old" [("etag", "old"), ("X-Amz-Tagging", "old")])] }
def putK : Req := { op := .put, key := ["k"] }
theorem kOK : KeyOK ["k"] := ⟨by decide, by decide⟩

/-! ### 1. overwrite = remove, then link: the key vanishes
    (with_otmpfile.go `link`: `os.Remove(objPath)` before `linkat`/`rename`, in both strategies) -/

-- the plan: …, unlink R/b/k, link @0 → R/b/k; killed between the two (after 6 steps) the key reads 404
theorem overwrite_window : view {} (crashAt 6 (plan {} putK fsOld) fsOld) ["k"] = none
    ∧ (view {} fsOld ["k"]).isSome ∧ (view {} (run (plan {} putK fsOld) fsOld) ["k"]).isSome := by decide +kernel

theorem crash_atomic_full_false : ¬ crash_atomic_full := by
  intro h
  exact absurd (h {} putK fsOld 6 kOK) (by decide +kernel)

-- the same with the named-temp strategy (--disableotmp): unlink, chmod, rename
theorem crash_atomic_full_false_named :
    ¬ (view { otmp := false } (crashAt 7 (plan { otmp := false } putK fsOld) fsOld) ["k"] = view { otmp := false } fsOld ["k"] ∨
       view { otmp := false } (crashAt 7 (plan { otmp := false } putK fsOld) fsOld) ["k"]
         = view { otmp := false } (run (plan { otmp := false } putK fsOld) fsOld) ["k"]) := by decide +kernel

/-! ### 2. tags (legal hold, retention) are written by name AFTER the publication: a new object without its tags -/

def fsNew : FS := { ents := [(["R", "b"], .dir [("acl", "x")]), (["R", "b", ".sgwtmp"], .dir [])] }
def putTagged : Req := { op := .put, key := ["k"], tags := true }

theorem tags_after_publication :
    (view {} (crashAt 6 (plan {} putTagged fsNew) fsNew) ["k"]).map (·.tags) = some none ∧
    (view {} (run (plan {} putTagged fsNew) fsNew) ["k"]).map (·.tags) = some (some "new") ∧
    view {} fsNew ["k"] = none := by decide +kernel

theorem crash_atomic_full_false_tags :
    ¬ (view {} (crashAt 6 (plan {} putTagged fsNew) fsNew) ["k"] = view {} fsNew ["k"] ∨
       view {} (crashAt 6 (plan {} putTagged fsNew) fsNew) ["k"] = view {} (run (plan {} putTagged fsNew) fsNew) ["k"]) := by
  have hw := tags_after_publication
  rintro (h | h)
  · rw [h, hw.2.2] at hw; exact absurd hw.1 (by decide +kernel)
  · rw [h, hw.2.1] at hw; exact absurd hw.1 (by decide +kernel)

/-! ### 3. sidecar store: attributes are files written by NAME of the final object, before the publication:
    the old data with (part of) the new metadata -/

def scfg : Cfg := { sidecar := true }
def fsSide : FS := { ents := [(["R", "b"], .dir []), (["R", "b", ".sgwtmp"], .dir []), (["R", "b", "k"], .file "old" []),
                              (["S", "b"], .dir []), (["S", "b", "k"], .dir []), (["S", "b", "k", "meta"], .dir []),
                              (["S", "b", "k", "meta", "etag"], .file "old" [])] }

-- after `os.RemoveAll(meta)` and the new ETag file, before unlink/link: old body, new ETag
theorem sidecar_mixed :
    (view scfg (crashAt 10 (plan scfg putK fsSide) fsSide) ["k"]).map (fun v => (v.data, v.etag)) = some ("old", some "new") ∧
    (view scfg fsSide ["k"]).map (fun v => (v.data, v.etag)) = some ("old", some "old") ∧
    (view scfg (run (plan scfg putK fsSide) fsSide) ["k"]).map (fun v => (v.data, v.etag)) = some ("new", some "new") := by
  decide +kernel

theorem crash_atomic_full_false_sidecar :
    ¬ (view scfg (crashAt 10 (plan scfg putK fsSide) fsSide) ["k"] = view scfg fsSide ["k"] ∨
       view scfg (crashAt 10 (plan scfg putK fsSide) fsSide) ["k"] = view scfg (run (plan scfg putK fsSide) fsSide) ["k"]) := by
  have hw := sidecar_mixed
  rintro (h | h)
  · rw [h, hw.2.1] at hw; exact absurd hw.1 (by decide +kernel)
  · rw [h, hw.2.2] at hw; exact absurd hw.1 (by decide +kernel)

/-! ### 4. versioned bucket: the archive copy is published before the new current version:
    the same version id twice in ListObjectVersions -/

def vcfg : Cfg := { verDir := true, vstatus := .enabled }
def fsVer : FS := { ents := [(["R", "b"], .dir []), (["R", "b", ".sgwtmp"], .dir []),
                             (["R", "b", "k"], .file "old" [("etag", "old"), ("version-id", "v1")]),
                             (["V", "b"], .dir []), (["V", "b", ".sgwtmp"], .dir [])] }

theorem versions_duplicate :
    (versions vcfg (crashAt 14 (plan vcfg putK fsVer) fsVer) ["k"]).map (fun v => (v.vid, v.latest)) = [("v1", true), ("v1", false)] := by
  decide +kernel

theorem versions_atomic_full_false : ¬ versions_atomic_full := by
  intro h
  exact absurd (h vcfg putK fsVer 14 kOK) (by decide +kernel)

/-! ### 5. CompleteMultipartUpload removes the upload after the publication: object complete, upload still listed -/

def fsMp : FS := { ents := [(["R", "b"], .dir []), (["R", "b", ".sgwtmp"], .dir []), (["R", "b", ".sgwtmp", "multipart"], .dir []),
                            (["R", "b", ".sgwtmp", "multipart", "#k"], .dir [("objname", "k")]),
                            (["R", "b", ".sgwtmp", "multipart", "#k", "U0"], .dir []),
                            (["R", "b", ".sgwtmp", "multipart", "#k", "U0", "1"], .file "p1" [("etag", "e1")])] }
def complK : Req := { op := .complete, key := ["k"], upload := "U0", parts := ["1"] }

theorem upload_left_over :
    (view {} (crashAt 4 (plan {} complK fsMp) fsMp) ["k"]).map (·.data) = some "p1" ∧
    uploads {} (crashAt 4 (plan {} complK fsMp) fsMp) ["k"] = ["U0"] ∧
    uploads {} (run (plan {} complK fsMp) fsMp) ["k"] = [] := by decide +kernel

theorem upload_consumed_full_false : ¬ upload_consumed_full := by
  intro h
  have hw := upload_left_over
  have := h {} complK fsMp 4 kOK rfl hw.2.2 (by decide +kernel) (by decide +kernel)
  exact absurd (hw.2.1.symm.trans this) (by decide)

/-! ### 6. parent directories are created before the publication (and pruned after the removal): an invisible
    empty directory that makes DeleteBucket answer BucketNotEmpty -/

def putNested : Req := { op := .put, key := ["d", "k"] }

theorem stray_parent : blocked {} fsNew = false ∧ blocked {} (run (plan {} putNested fsNew) fsNew) = false ∧
    blocked {} (crashAt 4 (plan {} putNested fsNew) fsNew) = true ∧
    (∀ k, k ∈ [["d"], ["d", "k"]] → listed {} (crashAt 4 (plan {} putNested fsNew) fsNew) k = none) := by decide +kernel

theorem not_blocked_full_false : ¬ not_blocked_full := by
  intro h
  have hw := stray_parent
  have := h {} putNested fsNew 4 ⟨by decide, by decide⟩ hw.1 hw.2.1
  exact absurd (hw.2.2.1.symm.trans this) (by decide)

/-! ### 7. what stays open with every committed repair switched on (`nowCfg` = the backend as committed:
    atomic replace, PutObject's and CopyObject's tags on the temp file) -/

def nowCfg : Cfg := { atomicReplace := true, tagsFirst := true, copyTagsFirst := true }
def nowV : Cfg := { nowCfg with verDir := true, vstatus := .enabled }

theorem versions_duplicate_now :
    (versions nowV (crashAt 14 (plan nowV putK fsVer) fsVer) ["k"]).map (fun v => (v.vid, v.latest)) = [("v1", true), ("v1", false)] := by
  decide +kernel

theorem upload_left_over_now :
    (view nowCfg (crashAt 4 (plan nowCfg complK fsMp) fsMp) ["k"]).map (·.data) = some "p1" ∧
    uploads nowCfg (crashAt 4 (plan nowCfg complK fsMp) fsMp) ["k"] = ["U0"] ∧
    uploads nowCfg (run (plan nowCfg complK fsMp) fsMp) ["k"] = [] := by decide +kernel

theorem stray_parent_now : blocked nowCfg fsNew = false ∧ blocked nowCfg (run (plan nowCfg putNested fsNew) fsNew) = false ∧
    blocked nowCfg (crashAt 4 (plan nowCfg putNested fsNew) fsNew) = true := by decide +kernel

/-! ### 8. PutObject / CopyObject with `x-amz-object-lock-legal-hold: ON`: PutObjectLegalHold (and PutObjectRetention)
    run by NAME after the publication — the backend as committed publishes the complete new object without the
    legal hold that protects it -/

def lockCfg : Cfg := { nowCfg with lock := true }
def putHeld : Req := { op := .put, key := ["k"], hold := true }

theorem hold_after_publication :
    (view lockCfg (crashAt 6 (plan lockCfg putHeld fsNew) fsNew) ["k"]).map (fun v => (v.data, v.hold)) = some ("new", none) ∧
    (view lockCfg (run (plan lockCfg putHeld fsNew) fsNew) ["k"]).map (fun v => (v.data, v.hold)) = some ("new", some "new") ∧
    view lockCfg fsNew ["k"] = none := by decide +kernel

theorem crash_atomic_full_false_hold :
    ¬ (view lockCfg (crashAt 6 (plan lockCfg putHeld fsNew) fsNew) ["k"] = view lockCfg fsNew ["k"] ∨
       view lockCfg (crashAt 6 (plan lockCfg putHeld fsNew) fsNew) ["k"] = view lockCfg (run (plan lockCfg putHeld fsNew) fsNew) ["k"]) := by
  have hw := hold_after_publication
  rintro (h | h)
  · rw [h, hw.2.2] at hw; exact absurd hw.1 (by decide +kernel)
  · rw [h, hw.2.1] at hw; exact absurd hw.1 (by decide +kernel)

end Vgw.Open.C11
