/-
  C12 — the two side conditions of the theorems of `Props.C12`, each with a kernel-evaluated witness
  that it is not an artefact.  Neither is a violation of C12: the first concerns streams outside
  `Spec.Chunked.Valid` (a chunk size spelled with more than 1000 leading zeros — a grey zone of the
  Spec), the second only the KIND of error with which an invalid stream is refused.
-/
import Vgw.Props.C12
namespace Vgw.Open.C12
open Vgw Vgw.Spec.Chunked Vgw.Model Vgw.Props.C12
open Vgw.Lemmas.ChunkSigned (signedCfg)

/-- "000…01;chunk-signature=01 CRLF A CRLF 0;chunk-signature=01 CRLF CRLF" with 1100 leading zeros -/
def long : Bytes := List.replicate 1100 48 ++ s1

/-- **The 1024-byte stash limit is real** (side condition `StashOK` of
`signed_fragmentation_independent`): a stream whose first chunk size is spelled with 1100 leading
zeros is decoded when it arrives in one read and refused (errInvalidChunkFormat) when its first
1030 bytes arrive on their own.  Harness: malformation class `leading-zeros-1100` (grey). -/
theorem stash_limit_matters :
    ChunkSigned.run (signedCfg toy false 0) toy.seedSig [(long, false)] = ([65], .eof) ∧
    ChunkSigned.run (signedCfg toy false 0) toy.seedSig [(long.take 1030, false), (long.drop 1030, false)] =
      ([], .err .invalidFormat) := by
  open Vgw.Lemmas.ChunkMerge Vgw.Lemmas.ChunkParse in
  have hl : long.length = 1100 + s1.length := by rw [long, List.length_append, List.length_replicate]
  constructor
  · -- `long` is the rendering of the chunk list of `s1` with the size spelled "0…01"
    have hr : long = renderSigned toy false toy.seedSig [] [(List.replicate 1100 48 ++ [49], [65])] [48] := by
      simp only [renderSigned, List.append_assoc]
      exact congrArg (List.replicate 1100 48 ++ ·) (by decide)
    obtain ⟨st', h⟩ := Lemmas.ChunkSigned.read_whole toy false 0 (toy_signed_hyps false)
      [(List.replicate 1100 48 ++ [49], [65])] [48]
      (fun c hc => by
        rw [List.mem_singleton.1 hc]
        exact ⟨(parseHexDigits_replicate_zero 1100 (by decide)).trans (by decide), by decide⟩)
      (by decide) (by decide) (by rw [← hr, hl]; decide) false long.length
    rw [ChunkSigned.run, runFrom_cons, ← hr] at *
    rw [h]
    rfl
  · -- no ';' among the first 1030 bytes: they are stashed
    have h1 : long.take 1030 = List.replicate 1030 48 := by
      rw [long, List.take_append_of_le_length (by rw [List.length_replicate]; omega), List.take_replicate]; rfl
    have h2 : long.drop 1030 ≠ [] := List.ne_nil_of_length_pos (by rw [List.length_drop, hl]; omega)
    have hp : ChunkSigned.parseHeader (signedCfg toy false 0) true ([] ++ List.replicate 1030 48) = .error (.rd .eof) := by
      rw [List.nil_append, parseHeader_first, ChunkSigned.parseCore,
        readUntil_eq_none fun h => absurd (List.eq_of_mem_replicate h) (by decide)]
    rw [ChunkSigned.run, runFrom_cons, h1,
      read_at_header _ false _ rfl rfl (List.ne_nil_of_length_pos (by rw [List.length_replicate]; omega)),
      parBody_skip _ (hdr_needMore (st := setE false (ChunkSigned.init toy.seedSig)) (q := List.replicate 1030 48)
        (by decide) rfl hp), tail_prepend, tail_nil rfl, runFrom_cons,
      read_at_header _ false _ rfl rfl h2, parBody_stash_long]
    · rfl
    · simp only [setE, ChunkSigned.init, List.nil_append, List.length_replicate]
      decide

/-- **The error KIND depends on how io.EOF arrives**: a stream cut inside a chunk header is refused
with errInvalidChunkFormat when io.EOF comes with the last bytes and with io.ErrUnexpectedEOF when
it comes on its own — refused either way. -/
theorem eof_mode_changes_error_kind :
    ChunkSigned.run (signedCfg toy false 0) toy.seedSig [(s1.take 30, true)] = ([65], .err .invalidFormat) ∧
    ChunkSigned.run (signedCfg toy false 0) toy.seedSig [(s1.take 30, false)] = ([65], .err .unexpectedEOF) := by
  constructor <;> decide +kernel

end Vgw.Open.C12
