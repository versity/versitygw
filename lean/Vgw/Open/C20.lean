/-
  C20 — the code as it is violates the full statement at seven sites.  Each theorem below is the
  NEGATION of a clause of `Props.C20.C20_full false`, from a concrete input; each input was
  replayed on the real gateway (the child process exits / its RSS balloons):

    1  AclParser `pathParts[1]`                 request target `fzb` (no leading "/"), signed
    2  PutBucketOwnershipControls `Rules[0]`    `<OwnershipControls></OwnershipControls>`
    3  ListMultipartUploads `resultUpds[i-1]`   four uploads, key-marker = first key, max-uploads = 1
    4  Grant.isValid → `(*Grt)(nil).isValid()`  PutBucketAcl, `<Grant><Permission>READ</Permission></Grant>`
    5  PutObjectAcl `&grt.Grantee.ID`           the same document on `PUT /b/k?acl`
    6  SelectObjectContent `*progress.Enabled`  `<RequestProgress></RequestProgress>`
    7  unsigned chunk reader `make([]byte, n)`  chunk-size line `140000000` and no payload: 5 GiB
-/
import Vgw.Props.C20
namespace Vgw.Open.C20
open Vgw Vgw.Go Vgw.Model.Robust Vgw.Props.C20

/-- 1: `fzb` passes DecodeURL as it is and has no "/" for AclParser to split at -/
theorem aclParser_asis_witness : noPanic (decodeThenAclParser false [102, 122, 98]) = false := by decide +kernel

/-- 2: `<OwnershipControls>` without a Rule -/
theorem putOwnershipControls_asis_witness (valid : Bytes → Bool) : noPanic (putOwnershipControls false valid []) = false := rfl

/-- 3: four uploads, key-marker = the first key, max-uploads = 1 -/
theorem listMultipartUploads_asis_witness :
    noPanic (listMultipartUploadsPage false [⟨[97], [1]⟩, ⟨[98], [2]⟩, ⟨[99], [3]⟩, ⟨[100], [4]⟩] 0 1 [97] []) = false := by decide +kernel

/-- 4: a Grant with a valid Permission and no Grantee -/
theorem acpValidate_asis_witness : noPanic (acpValidate false [⟨none, [82, 69, 65, 68]⟩] (some (some [1]))) = false := by decide +kernel

/-- 5: the Grant of witness 4 in a PutObjectAcl body -/
theorem putObjectAclGrants_asis_witness : noPanic (putObjectAclGrants false [⟨none, [82, 69, 65, 68]⟩]) = false := by decide +kernel

/-- 6: `<RequestProgress>` without `<Enabled>` -/
theorem selectProgress_asis_witness : noPanic (selectProgressEnabled false (some none)) = false := rfl

/-- 7: the line `140000000` is accepted and sizes an allocation of 5 GiB although nothing arrived -/
theorem chunkAlloc_asis_witness :
    extractChunkSize [49, 52, 48, 48, 48, 48, 48, 48, 48] = some 5368709120 ∧
    chunkAlloc false 5368709120 0 = .ok 5368709120 := by decide +kernel

/-- each clause separately (so that repairing one site does not hide the others) -/
theorem each_clause_asis_false :
    (¬ ∀ u, noPanic (decodeThenAclParser false u) = true) ∧
    (¬ ∀ valid rules, noPanic (putOwnershipControls false valid rules) = true) ∧
    (¬ ∀ grants owner, noPanic (acpValidate false grants owner) = true) ∧
    (¬ ∀ grants, noPanic (putObjectAclGrants false grants) = true) ∧
    (¬ ∀ p, noPanic (selectProgressEnabled false p) = true) ∧
    (¬ ∀ uploads kmi mx km um, -1 ≤ kmi → noPanic (listMultipartUploadsPage false uploads kmi mx km um) = true) :=
  ⟨fun h => Bool.false_ne_true (aclParser_asis_witness.symm.trans (h _)),
   fun h => Bool.false_ne_true ((putOwnershipControls_asis_witness fun _ => true).symm.trans (h _ _)),
   fun h => Bool.false_ne_true (acpValidate_asis_witness.symm.trans (h _ _)),
   fun h => Bool.false_ne_true (putObjectAclGrants_asis_witness.symm.trans (h _)),
   fun h => Bool.false_ne_true (selectProgress_asis_witness.symm.trans (h _)),
   fun h => Bool.false_ne_true (listMultipartUploads_asis_witness.symm.trans (h _ _ _ _ _ (by decide)))⟩

theorem noPanicAtDefectSites_asis_false : ¬ NoPanicAtDefectSites false :=
  fun h => each_clause_asis_false.1 h.1

theorem allocTracksArrival_asis_false : ¬ AllocTracksArrival false := by
  intro h
  obtain ⟨m, hm, hle⟩ := h _ _ 0 chunkAlloc_asis_witness.1
  rw [chunkAlloc_asis_witness.2] at hm
  cases hm
  omega

/-- the full statement is false of the code as it is -/
theorem C20_full_asis_false : ¬ C20_full false := fun h => noPanicAtDefectSites_asis_false h.1

end Vgw.Open.C20
