/-
  C07 — open findings: the full statement `walk_refines_spec_full` is FALSE for the model of
  backend.Walk (as repaired by C07-fix-1..3), and every substantive hypothesis of
  `walk_refines_spec_partial` is individually necessary (for the delimiter hypothesis the witness
  that drops nothing else is `tDelim2`; `tDelim` with the server's own marker also fails
  `markerClear`). Each witness is a tiny tree evaluated by
  the kernel (`decide`); the harness replays the same inputs on the real backend.Walk
  (harness/cmd/vharness/c07.go: c07Corpus).

  For every witness two facts are shown: the model's page is not the specified page (`¬ Refines`),
  and — stronger, this is what the harness judges — the executable oracle `pageOkB` rejects the
  model's page (so the deviation is not in a grey zone), where that is the case.

  Bytes: a=97 b=98 c=99 m=109 x=120 y=121 z=122, '-'=45 '.'=46 '/'=47 '0'=48.
-/
import Vgw.Props.C07
namespace Vgw.Open.C07
open Vgw Vgw.Model.Walk Vgw.Spec.List Vgw.Props.C07

/-- every directory is an explicit directory object too -/
def allObjs : GetObj := fun k => some (k.length, k)

/-! ### 1. order-incompatible siblings (`walk:order-incompatible-siblings`)
keys `a/x`, `a.b`: fs.WalkDir visits directory `a` before the file `a.b`, but `a.b` < `a/x`. -/

def tOrder : List Tree := [.dir [97] [.file [120]], .file [97, 46, 98]]

theorem order_hyps : wfList tOrder = true ∧ ocList tOrder = false ∧
    populatedList fileOnly [] [] tOrder = true ∧ markerClear (keysList fileOnly [] [] tOrder) [] [] [] = true := by decide +kernel

theorem order_page : walk ⟨[], [], [], 1, fileOnly, []⟩ tOrder =
    ⟨[⟨[97, 47, 120], 3, [97, 47, 120]⟩], [], true, [97, 47, 120]⟩ := by decide +kernel
theorem order_spec : result fileOnly (keysList fileOnly [] [] tOrder) [] [] [] 1 =
    ⟨[⟨[97, 46, 98], 3, [97, 46, 98]⟩], [], true, [97, 46, 98]⟩ := by decide +kernel

theorem order_not_refines : ¬ Refines tOrder fileOnly [] [] [] [] 1 := fun h =>
  absurd (order_page.symm.trans (h.trans order_spec)) (by decide)

theorem order_rejected : pageOkB fileOnly (keysList fileOnly [] [] tOrder) [] [] [] 1
    (walk ⟨[], [], [], 1, fileOnly, []⟩ tOrder) = false := by decide +kernel

/-- the converse of `events_sorted`: without order compatibility the traversal is not ascending -/
theorem events_unsorted_witness : wfList tOrder = true ∧
    ¬ (eventsList [] tOrder).Pairwise (fun a b => blt a b = true) := by decide +kernel

/-- **the full statement fails** -/
theorem not_walk_refines_spec_full : ¬ walk_refines_spec_full := by
  intro h
  exact order_not_refines (h tOrder fileOnly [] [] [] [] 1 (by decide +kernel))

/-! ### 2. marker inside / prefixing a common prefix (`walk:marker-inside-common-prefix`) -/

def tMarker : List Tree := [.dir [97] [.file [98], .file [99]]]

theorem marker_hyps : wfList tMarker = true ∧ ocList tMarker = true ∧
    populatedList fileOnly [] [] tMarker = true ∧
    markerClear (keysList fileOnly [] [] tMarker) [] [47] [97, 47, 98] = false ∧
    markerClear (keysList fileOnly [] [] tMarker) [] [47] [97] = false := by decide +kernel

/-- start-after `a/b` with delimiter `/`: the common prefix `a/` (key `a/c` is after the marker) is lost -/
theorem marker_inside_rejected :
    walk ⟨[], [47], [97, 47, 98], 10, fileOnly, []⟩ tMarker = ⟨[], [], false, []⟩ ∧
    result fileOnly (keysList fileOnly [] [] tMarker) [] [47] [97, 47, 98] 10 = ⟨[], [[97, 47]], false, []⟩ ∧
    pageOkB fileOnly (keysList fileOnly [] [] tMarker) [] [47] [97, 47, 98] 10
      (walk ⟨[], [47], [97, 47, 98], 10, fileOnly, []⟩ tMarker) = false := by decide +kernel

/-- start-after `a` (think `photos`): the common prefix `a/` is lost -/
theorem marker_prefixing_rejected :
    walk ⟨[], [47], [97], 10, fileOnly, []⟩ tMarker = ⟨[], [], false, []⟩ ∧
    result fileOnly (keysList fileOnly [] [] tMarker) [] [47] [97] 10 = ⟨[], [[97, 47]], false, []⟩ ∧
    pageOkB fileOnly (keysList fileOnly [] [] tMarker) [] [47] [97] 10
      (walk ⟨[], [47], [97], 10, fileOnly, []⟩ tMarker) = false := by decide +kernel

theorem marker_not_refines : ¬ Refines tMarker fileOnly [] [] [47] [97, 47, 98] 10 := fun h =>
  absurd (marker_inside_rejected.1.symm.trans (h.trans marker_inside_rejected.2.1)) (by decide)

/-! ### 3. delimiters other than "/" (`walk:non-slash-delimiter`)
keys `a`, `a-b`, delimiter `-`: the server's own NextMarker `a` (page size 1) drops the common
prefix `a-`; the marker IS server-issued (and is not `markerClear`: for such delimiters the server's
own markers are not clear of the common prefixes). -/

def tDelim : List Tree := [.file [97], .file [97, 45, 98]]

theorem delim_hyps : wfList tDelim = true ∧ ocList tDelim = true ∧
    populatedList fileOnly [] [] tDelim = true ∧
    serverIssued (keysList fileOnly [] [] tDelim) [] [45] [97] = true := by decide +kernel

theorem delim_first_page : walk ⟨[], [45], [], 1, fileOnly, []⟩ tDelim = ⟨[⟨[97], 1, [97]⟩], [], true, [97]⟩ := by decide +kernel

theorem delim_second_page_rejected :
    walk ⟨[], [45], [97], 1, fileOnly, []⟩ tDelim = ⟨[], [], false, []⟩ ∧
    result fileOnly (keysList fileOnly [] [] tDelim) [] [45] [97] 1 = ⟨[], [[97, 45]], false, []⟩ ∧
    pageOkB fileOnly (keysList fileOnly [] [] tDelim) [] [45] [97] 1
      (walk ⟨[], [45], [97], 1, fileOnly, []⟩ tDelim) = false := by decide +kernel

theorem delim_not_refines : ¬ Refines tDelim fileOnly [] [] [45] [97] 1 := fun h =>
  absurd (delim_second_page_rejected.1.symm.trans (h.trans delim_second_page_rejected.2.1)) (by decide)

/-- even with no marker at all the exact page differs for a non-'/' delimiter: `a-b`, `a-c` with page
size 1 is reported truncated although nothing remains (the grey zone of Spec.List, admitted by the
oracle) -/
def tDelim2 : List Tree := [.file [97, 45, 98], .file [97, 45, 99]]
theorem delim_grey_zone :
    walk ⟨[], [45], [], 1, fileOnly, []⟩ tDelim2 = ⟨[], [[97, 45]], true, [97, 45]⟩ ∧
    result fileOnly (keysList fileOnly [] [] tDelim2) [] [45] [] 1 = ⟨[], [[97, 45]], false, []⟩ ∧
    pageOkB fileOnly (keysList fileOnly [] [] tDelim2) [] [45] [] 1
      (walk ⟨[], [45], [], 1, fileOnly, []⟩ tDelim2) = true := by decide +kernel

/-! ### 4. explicit directory object, no delimiter (`walk:dir-object-empty-delimiter`)
keys `a/`, `b`: the directory object is appended without marker test and its NextMarker is `a`,
so it is returned again on every page. -/

def tDirObj : List Tree := [.dir [97] [], .file [98]]

theorem dirobj_hyps : wfList tDirObj = true ∧ ocList tDirObj = true ∧
    populatedList allObjs [] [] tDirObj = true ∧
    markerClear (keysList allObjs [] [] tDirObj) [] [] [] = true := by decide +kernel

theorem dirobj_loops :
    walk ⟨[], [], [], 1, allObjs, []⟩ tDirObj = ⟨[⟨[97, 47], 2, [97, 47]⟩], [], true, [97]⟩ ∧
    walk ⟨[], [], [97], 1, allObjs, []⟩ tDirObj = ⟨[⟨[97, 47], 2, [97, 47]⟩], [], true, [97]⟩ ∧
    pageOkB allObjs (keysList allObjs [] [] tDirObj) [] [] [] 1
      (walk ⟨[], [], [], 1, allObjs, []⟩ tDirObj) = false := by decide +kernel

theorem dirobj_not_refines : ¬ Refines tDirObj allObjs [] [] [] [] 1 := by
  unfold Refines; decide +kernel

/-! ### 5. explicit directory object with children, delimiter "/" (`walk:dir-object-with-children`)
keys `a/`, `a/b`, prefix `a/`: the object `a/` is never listed. -/

def tDirObj2 : List Tree := [.dir [97] [.file [98]]]

theorem dirobj2_hyps : wfList tDirObj2 = true ∧ ocList tDirObj2 = true ∧
    populatedList allObjs [] [] tDirObj2 = true ∧
    markerClear (keysList allObjs [] [] tDirObj2) [97, 47] [47] [] = true := by decide +kernel

theorem dirobj2_rejected :
    walk ⟨[97, 47], [47], [], 10, allObjs, []⟩ tDirObj2 = ⟨[⟨[97, 47, 98], 3, [97, 47, 98]⟩], [], false, []⟩ ∧
    result allObjs (keysList allObjs [] [] tDirObj2) [97, 47] [47] [] 10 =
      ⟨[⟨[97, 47], 2, [97, 47]⟩, ⟨[97, 47, 98], 3, [97, 47, 98]⟩], [], false, []⟩ ∧
    pageOkB allObjs (keysList allObjs [] [] tDirObj2) [97, 47] [47] [] 10
      (walk ⟨[97, 47], [47], [], 10, allObjs, []⟩ tDirObj2) = false := by decide +kernel

theorem dirobj2_not_refines : ¬ Refines tDirObj2 allObjs [] [97, 47] [47] [] 10 := fun h =>
  absurd (dirobj2_rejected.1.symm.trans (h.trans dirobj2_rejected.2.1)) (by decide)

/-! ### 6. phantom directory (hypothesis `hpop`, `walk:phantom-directory`)
a directory holding no key is listed as a common prefix: Walk rolls a directory up without looking
for a listable entry below it. On disk: a versioned bucket in which every key below `dir/` has been
deleted — posix keeps the file of a delete marker in place and `fileToObj` answers ErrSkipObj for
it (here: `fileOnly` answers for no path below `a/`, the directory `a` is empty). -/

def tPhantom : List Tree := [.dir [97] [], .file [98]]

theorem phantom_hyps : wfList tPhantom = true ∧ ocList tPhantom = true ∧
    populatedList fileOnly [] [] tPhantom = false ∧
    markerClear (keysList fileOnly [] [] tPhantom) [] [47] [] = true := by decide +kernel

theorem phantom_rejected :
    walk ⟨[], [47], [], 10, fileOnly, []⟩ tPhantom = ⟨[⟨[98], 1, [98]⟩], [[97, 47]], false, []⟩ ∧
    result fileOnly (keysList fileOnly [] [] tPhantom) [] [47] [] 10 = ⟨[⟨[98], 1, [98]⟩], [], false, []⟩ ∧
    pageOkB fileOnly (keysList fileOnly [] [] tPhantom) [] [47] [] 10
      (walk ⟨[], [47], [], 10, fileOnly, []⟩ tPhantom) = false := by decide +kernel

end Vgw.Open.C07
