/-
  C18 — open findings: what is still FALSE for backend/s3proxy/s3.go.
  Every refutation is derived from the REGENERATED table (`Vgw.Gen.ProxyFacts`), so it disappears
  (the build breaks, asking for the lists in Model/Proxy.lean to be updated) when the code is
  repaired. The harness replays each witness end to end on real gateway processes
  (harness/cmd/vharness/c18*.go).

  * every entry of `lossyReq` is individually necessary: for each of them there is a request on
    which the value does not reach the backend as a plain copy (`lossy_entry_is_lost`) — hence the
    request half of `proxy_fields_preserved_full` is false (Expires, object-lock headers,
    ListBuckets owner; the four argued entries — `zeroUnreachable`, `faithfulDerivation`,
    `emptyBodyRewrite` — are harmless: Props.C18.lossyReqFindings_eq);
  * `no_panic_full` is false: eight methods dereference members of a successful answer untested
    (members every real endpoint answers: ETag, bucket names, upload ids, …);
  * `acl_fits_full` is false: an ACL document longer than 192 bytes cannot be stored in the tag;
  * the obvious way to implement client bucket tagging (forward the calls) would clobber and
    reveal the reserved tag — kept as the rejected alternative of Props.C18.acl_tag_isolated.
-/
import Vgw.Props.C18
namespace Vgw.Open.C18
open Vgw Vgw.Gen.ProxyFacts Vgw.Model.Proxy Vgw.Lemmas.Proxy Vgw.Lemmas.ProxyAcl Vgw.Props.C18

theorem look_of_mem {M : Method} (h : M ∈ methods) : look M.name = some M :=
  find?_key_of_nodup Method.name method_names_nodup h

/-- method names are unique in the generated table -/
theorem look_unique : methods.all (fun M => look M.name == some M) = true :=
  List.all_eq_true.mpr fun _ h => beq_iff_eq.mpr (look_of_mem h)

/-- a relevant request entry the table rejects is lost for the witness request -/
theorem lossy_entry_is_lost (e : String × String × String) (h : reqOk e = false) : ¬ ReqPreserved e := by
  rintro ⟨M, c, hm, hn, hc, hall⟩
  have hl : look e.1 = some M := by rw [← hn]; exact look_of_mem hm
  unfold reqOk at h
  rw [hl] at h
  exact preservedReq_complete M c e.2.1 e.2.2 hc h (hall (fun _ _ => none) (witnessReq M e.2.1))

/-- a relevant output entry the table rejects is lost for the witness answer -/
theorem dropped_entry_is_lost (e : String × String × String) (h : respOk e = false) : ¬ RespCopied e := by
  rintro ⟨M, hm, hn, hall⟩
  have hl : look e.1 = some M := by rw [← hn]; exact look_of_mem hm
  unfold respOk at h
  rw [hl] at h
  exact copiedResp_complete M e.2.1 e.2.2 h (hall (fun _ _ => none) (witnessResp e.2.1))

/-- every listed drop is individually necessary -/
theorem lossyReq_all_necessary : ∀ e ∈ relevantReq, (e.1, e.2.1) ∈ lossyReq → ¬ ReqPreserved e := by
  intro e he hl
  apply lossy_entry_is_lost
  have key : relevantReq.all (fun e => !lossyReq.contains (e.1, e.2.1) || !reqOk e) = true := by decide +kernel
  have := List.all_eq_true.mp key e he
  have hc : lossyReq.contains (e.1, e.2.1) = true := List.contains_iff_mem.mpr hl
  rw [hc] at this
  simpa using this

/-- The full statement is false: the caller of ListBuckets does not reach the backend. -/
theorem proxy_fields_preserved_full_false : ¬ proxy_fields_preserved_full := by
  intro h
  exact lossyReq_all_necessary ("ListBuckets", "Owner", "Owner") (by decide +kernel) (by decide +kernel)
    (h.1 _ (by decide +kernel))

/-- a non-RFC1123 `Expires` is at the mercy of `time.Parse`: modelled as an arbitrary computation,
which may yield nothing (the code: `if err == nil { expires = &exp }`) -/
theorem expires_not_copied : reqOk ("PutObject", "Expires", "Expires") = false := by decide +kernel

/-- the object-lock headers of a PUT are cleared before the call -/
theorem lock_cleared : mPutObject.cleared = ["ObjectLockRetainUntilDate", "ObjectLockMode", "ObjectLockLegalHoldStatus"] := rfl

/-- `ListBuckets` sends neither the caller nor the is-admin flag: the endpoint cannot filter -/
theorem listbuckets_owner_not_sent : reqOk ("ListBuckets", "Owner", "Owner") = false ∧ reqOk ("ListBuckets", "IsAdmin", "IsAdmin") = false := by decide +kernel

/-! ### panics -/

/-- an answer to PutObject without ETag makes the method panic (`*output.ETag`) -/
theorem putobject_panics_without_etag : panics mPutObject false (fun p => p != "ETag") = true := by decide +kernel

theorem no_panic_full_false : ¬ no_panic_full := by
  intro h
  have := h mPutObject (by simp [methods]) false (fun p => p != "ETag")
  rw [putobject_panics_without_etag] at this
  exact Bool.noConfusion this

/-- the methods that dereference optional members of a successful answer untested -/
theorem unguarded_derefs : (methods.filter (fun m => !m.derefUnguarded.isEmpty)).map (fun m => m.name) =
    ["ListBuckets", "GetBucketOwnershipControls", "CreateMultipartUpload",
     "UploadPartCopy", "PutObject", "GetBucketAcl", "PutBucketAcl", "GetObjectTagging"] := by decide +kernel

/-! ### the ACL does not fit -/

theorem acl_fits_full_false : ¬ acl_fits_full := by
  intro h
  obtain ⟨t, ht⟩ := h (List.replicate 193 65)
  rw [acl_too_long_refused _ (by rw [List.length_replicate]; decide)] at ht
  cases ht

/-! ### bucket tagging: the rejected alternative -/

def aclOf (s : Option Tags) : Option Bytes := match getBucketAcl s with | .ok a => some a | .error _ => none

/-- the obvious implementation (forward the three calls) is wrong: a client's put removes the stored ACL … -/
theorem naive_put_clobbers_acl :
    aclOf (naiveTagging (some [(aclKeyB, b64Encode [123, 125])]) (.put [("team", [120])])).2 = some [] ∧
    aclOf (some [(aclKeyB, b64Encode [123, 125])]) = some [123, 125] := by decide +kernel

/-- … and a client's get shows it -/
theorem naive_get_reveals_acl :
    (match (naiveTagging (some [(aclKeyB, [65, 65, 65, 65])]) .get).1 with
     | .ok (some vis) => vis.any (fun kv => kv.1 == aclKeyB)
     | _ => false) = true := by decide +kernel

end Vgw.Open.C18
