/-
  C17 — nothing is open for the current code: the statements of Props/C17.lean hold at full
  strength, without side condition.

  This file keeps REGRESSION EXAMPLES about the OLD revision only (`Variant.oldWriteThrough`: the
  write-through account cache of /repo before 6f25651, whose CreateAccount built the cache entry
  from Access, Secret, Role).  They are the kernel-evaluated interleavings on which that revision
  violated the property; the harness runs the same schedules on the real code as corpus
  (c17.go, c17conc.go, c17e2e.go), where they must now pass — a failure there carries the signature
  given in brackets and is a VIOLATION.  Each example is followed by the same schedule on
  `Variant.current`, where it is harmless.  The definitions are named `old…`; nothing below is a
  statement about the current code except the lines that say `.current`.

  * the entry the old CreateAccount cached had no uid/gid          [iam:create:cache-entry-drops-uid-gid]
  * a lookup in flight across a delete re-inserted the account      [iam:miss-in-flight-vs-delete:stale-cache]
  * … across an update kept the old secret valid                   [iam:miss-in-flight-vs-update:stale-cache]
  * a create in flight across a delete cached the deleted account   [iam:create-in-flight-vs-delete:stale-cache]
  * two updates cached in the opposite order of their store order   [iam:update-in-flight-vs-update:stale-cache]
  * an update resurrected the expired entry without uid/gid
-/
import Vgw.Props.C17
namespace Vgw.Open.C17
open Vgw Vgw.Model.IAM Vgw.Props.C17
open Vgw.Model.Gw (Account Role)

/-- the regression model -/
abbrev old : Variant := .oldWriteThrough

def root : Account := { access := [114], secret := [1], role := .admin }
def cfg : Cfg := { root := root, ttl := 5 }
/-- account `a`: secret 2, role userplus, uid 5, gid 1000 -/
def acc : Account := { access := [97], secret := [2], role := .userplus, uid := 5, gid := 1000 }

theorem start_empty : Start cfg [] := ⟨by decide, by simp [keysNodup]⟩
theorem start_acc : Start cfg [acc] := ⟨by decide, by simp [keysNodup, acc]⟩

/-! ### OLD: the entry CreateAccount cached had no uid/gid -/

def oldSeqWitness : List SeqAct := [.call (.create acc), .call (.get [97])]

/-- OLD revision: a fresh account answered with uid 0, gid 0 — not a refinement of the map -/
example : seqRun old cfg (init []) oldSeqWitness = [some .ok, some (.acct { acc with uid := 0, gid := 0 })] := by decide +kernel
example : ¬ SeqRefines cfg (abs []) oldSeqWitness (seqRun old cfg (init []) oldSeqWitness) := by
  have e : seqRun old cfg (init []) oldSeqWitness = [some .ok, some (.acct { acc with uid := 0, gid := 0 })] := by decide +kernel
  rw [e]
  simp only [oldSeqWitness, seqRefines_call]
  intro h
  have h2 := h.2.1
  revert h2
  decide +kernel
/-- current code: all attributes at once -/
example : seqRun .current cfg (init []) oldSeqWitness = [some .ok, some (.acct acc)] := by decide +kernel

/-- OLD revision: the entry expired, was not pruned yet, and an update resurrected it
(icache.update refreshed expired entries): the wrong uid/gid outlived the TTL -/
def oldResurrect : List SeqAct :=
  [.call (.create acc), .tick 6, .call (.update [97] { secret := some [9] }), .call (.get [97]), .tick 4, .call (.get [97])]
example : seqRun old cfg (init []) oldResurrect =
    [some .ok, some .ok, some (.acct { acc with secret := [9], uid := 0, gid := 0 }),
     some (.acct { acc with secret := [9], uid := 0, gid := 0 })] := by decide +kernel
example : seqRun .current cfg (init []) oldResurrect =
    [some .ok, some .ok, some (.acct { acc with secret := [9] }), some (.acct { acc with secret := [9] })] := by decide +kernel

/-! ### OLD: a lookup in flight across a delete re-inserted the account -/

/-- lookup 0 of `a`: cache miss, RLock, read, RUnlock — parked before its cache step;
delete 1 of `a`: runs from invocation to return (acknowledged) -/
def oldRaceDel₁ : List Act :=
  [.invoke (.get [97]), .step 0, .step 0, .step 0, .step 0, .invoke (.delete [97])] ++ List.replicate 8 (.step 1)
/-- lookup 0 takes its cache step; then a NEW lookup 2 is invoked and runs to its return -/
def oldRaceDel₂ : List Act := [.step 0, .invoke (.get [97])] ++ List.replicate 5 (.step 2)

/-- OLD revision: the acknowledged delete (store empty) was followed by a lookup that found the account -/
example : (run old cfg (init [acc]) oldRaceDel₁).calls[1]? = some ⟨.delete [97], .done .ok⟩ ∧
    (run old cfg (init [acc]) oldRaceDel₁).committed = [] ∧
    (run old cfg (run old cfg (init [acc]) oldRaceDel₁) oldRaceDel₂).calls[2]? = some ⟨.get [97], .done (.acct acc)⟩ := by decide +kernel
/-- i.e. `LookupAfterAck` failed for the OLD revision -/
example : ¬ LookupAfterAck old cfg [acc] 0 oldRaceDel₁ oldRaceDel₂ := by
  intro h
  have := h [97] (noMutB_sound (by decide +kernel))
    (by intro op hop hm; simp [oldRaceDel₂] at hop; subst hop; cases hm)
    2 (.acct acc) (by decide +kernel) (by decide +kernel)
  have e : (run old cfg (init [acc]) oldRaceDel₁).committed = [] := by decide +kernel
  rw [e] at this
  revert this
  decide +kernel
/-- the schedule violates the side condition the old revision needed -/
example : quietRunB old cfg (init [acc]) (oldRaceDel₁ ++ oldRaceDel₂) = false := by decide +kernel
/-- current code, same schedule: the generation moved on, the lookup's store is dropped, "no such user" -/
example : (run .current cfg (run .current cfg (init [acc]) oldRaceDel₁) oldRaceDel₂).calls[2]? =
    some ⟨.get [97], .done .noSuchUser⟩ := by decide +kernel

/-! ### OLD: … and across an update kept the old secret valid -/

def oldRaceUpd₁ : List Act :=
  [.invoke (.get [97]), .step 0, .step 0, .step 0, .step 0, .invoke (.update [97] { secret := some [9] })] ++ List.replicate 8 (.step 1)

example : (run old cfg (init [acc]) oldRaceUpd₁).calls[1]? = some ⟨.update [97] { secret := some [9] }, .done .ok⟩ ∧
    (run old cfg (init [acc]) oldRaceUpd₁).committed = [{ acc with secret := [9] }] ∧
    (run old cfg (run old cfg (init [acc]) oldRaceUpd₁) oldRaceDel₂).calls[2]? = some ⟨.get [97], .done (.acct acc)⟩ := by decide +kernel
example : (run .current cfg (run .current cfg (init [acc]) oldRaceUpd₁) oldRaceDel₂).calls[2]? =
    some ⟨.get [97], .done (.acct { acc with secret := [9] })⟩ := by decide +kernel

/-! ### OLD: concurrent changes of one key, cache steps in another order than store steps -/

/-- create 0 decided and unlocked (parked before its cache step); delete 1 complete; create 0 takes
its cache step; lookup 2 -/
def oldRaceCreate : List Act :=
  [.invoke (.create { acc with uid := 0, gid := 0 })] ++ List.replicate 7 (.step 0) ++
  [.invoke (.delete [97])] ++ List.replicate 8 (.step 1) ++ [.step 0, .invoke (.get [97])] ++ List.replicate 5 (.step 2)

example : (run old cfg (init []) oldRaceCreate).committed = [] ∧
    (run old cfg (init []) oldRaceCreate).log = [⟨0, .create { acc with uid := 0, gid := 0 }, .ok⟩, ⟨1, .delete [97], .ok⟩] ∧
    (run old cfg (init []) oldRaceCreate).calls[2]? = some ⟨.get [97], .done (.acct { acc with uid := 0, gid := 0 })⟩ := by decide +kernel
example : (run .current cfg (init []) oldRaceCreate).calls[2]? = some ⟨.get [97], .done .noSuchUser⟩ := by decide +kernel

/-- the entry is warm; update 1 (secret 8) and update 2 (secret 9) are decided in that order, their
cache steps run in the opposite order -/
def oldRaceUpdUpd : List Act :=
  [.invoke (.get [97])] ++ List.replicate 5 (.step 0) ++
  [.invoke (.update [97] { secret := some [8] })] ++ List.replicate 7 (.step 1) ++
  [.invoke (.update [97] { secret := some [9] })] ++ List.replicate 8 (.step 2) ++ [.step 1, .invoke (.get [97])] ++ List.replicate 5 (.step 3)

/-- OLD revision: the store said 9, every lookup answered 8 -/
example : (run old cfg (init [acc]) oldRaceUpdUpd).committed = [{ acc with secret := [9] }] ∧
    (run old cfg (init [acc]) oldRaceUpdUpd).calls[3]? = some ⟨.get [97], .done (.acct { acc with secret := [8] })⟩ := by decide +kernel
example : (run .current cfg (init [acc]) oldRaceUpdUpd).calls[3]? = some ⟨.get [97], .done (.acct { acc with secret := [9] })⟩ := by decide +kernel

end Vgw.Open.C17
