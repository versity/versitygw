/-
  C14 — Bucket policy evaluation follows the policy language exactly.

  Theorems about Model.Glob.match (= Resources.Match), Model.Policy (Actions.FindMatch,
  Principals.Contains, Resources.FindMatch, BucketPolicy.isAllowed, VerifyBucketPolicy,
  ValidatePolicyDocument) against Spec.Glob.G and Spec.Policy.

  The code meant is /repo with 4562263 (`Match` tests for `*` first, `Resources.Validate` compares the
  whole bucket component), ade9d47 (the kind loop `continue`s at `s3:*`) and b250bc5 (required members).
-/
import Vgw.Lemmas.Policy
import Vgw.Lemmas.ValidateOrder
namespace Vgw.Props.C14
open Vgw Vgw.Model.Policy Vgw.Spec.Policy Vgw.Spec.Glob Vgw.Lemmas.Glob Vgw.Lemmas.Policy Vgw.Lemmas.Validate

/-! ## the matcher -/

/-- The two-pointer backtracking matcher equals the declarative glob semantics (`*` any run of
bytes, `?` exactly one byte) for EVERY pattern and EVERY subject. -/
theorem match_iff_glob (p s : Bytes) : Model.Glob.match p s = G p s :=
  (loop_eq p s 0 0 none 0 (Nat.le_refl 0) (reach_init p)).trans (Bool.or_false _)

/-! ## statement matching -/

/-- `Actions.FindMatch` = `s3:*` ∈ actions ∨ action ∈ actions ∨ some member `pre*` with `pre` a prefix
of the action — for every action set and every action string. -/
theorem action_match_iff (st : Stmt) (act : Bytes) :
    actionsFindMatch st.actions act = true ↔ ActionHit st act := by
  unfold actionsFindMatch ActionHit
  rw [Bool.if_true_left, Bool.if_true_left, Bool.decide_eq_true, Bool.decide_eq_true,
    Bool.or_eq_true, Bool.or_eq_true, List.contains_iff_mem, List.contains_iff_mem, List.any_eq_true]
  simp only [Bool.and_eq_true, hasSuffix_star_iff, wildCardMatch_iff, and_self_left]

/-- `Principals.Contains` = `*` ∈ principals ∨ caller ∈ principals. -/
theorem principal_match_iff (st : Stmt) (who : Bytes) :
    principalsContains st.principals who = true ↔ PrincipalHit st who := by
  unfold principalsContains PrincipalHit
  rw [Bool.if_true_left, Bool.decide_eq_true, Bool.or_eq_true, List.contains_iff_mem,
    List.contains_iff_mem]

/-- `Resources.FindMatch` = some pattern matches by `G` — for every resource string. -/
theorem resource_match_iff (st : Stmt) (res : Bytes) :
    resourcesFindMatch st.resources res = true ↔ ResourceHit st res := by
  unfold resourcesFindMatch ResourceHit
  rw [List.any_eq_true]
  simp only [match_iff_glob]

theorem stmt_match_iff (st : Stmt) (who act res : Bytes) :
    stmtFindMatch st who act res = true ↔ Hit st who act res := by
  unfold stmtFindMatch Hit
  rw [Bool.and_eq_true, Bool.and_eq_true, principal_match_iff, action_match_iff,
    resource_match_iff st res, and_assoc]

/-! ## the decision -/

/-- `BucketPolicy.isAllowed` is deny-overrides with default deny over the statements that
`findMatch`, for any number and any order of statements. -/
theorem isAllowed_deny_overrides (pol : Policy) (who act res : Bytes) :
    isAllowed pol who act res = true ↔
      ((∃ st ∈ pol, st.effect = allowLit ∧ stmtFindMatch st who act res = true) ∧
        ¬ ∃ st ∈ pol, st.effect = denyLit ∧ stmtFindMatch st who act res = true) := by
  unfold isAllowed
  rw [loop_iff, Bool.false_eq_true, false_or]

/-- A request is allowed exactly when at least one Allow statement matches caller, action and
resource and no Deny statement does — for every policy (any number and order of statements),
caller, action and resource string. -/
theorem isAllowed_iff (pol : Policy) (who act res : Bytes) :
    isAllowed pol who act res = true ↔ Allows pol who act res := by
  rw [isAllowed_deny_overrides]
  unfold Allows
  simp only [stmt_match_iff]

/-- `VerifyBucketPolicy` asks about the bucket itself or about `bucket/object`. -/
theorem verify_resource (bucket object : Bytes) :
    verifyResource bucket object = requestResource bucket object := by
  unfold verifyResource requestResource
  cases object with
  | nil => simp
  | cons c o => simp [slashLit]

theorem verify_iff (pol : Policy) (who bucket object act : Bytes) :
    verify pol who bucket object act = true ↔ Allows pol who act (requestResource bucket object) := by
  unfold verify
  rw [verify_resource]
  exact isAllowed_iff pol who act _

/-! ## validation

`validateDocument ord bucket acct doc` is `ValidatePolicyDocument` on a document of generic shape
`doc`, where `ord` is the order in which Go happens to iterate each statement's action map.
`Sane bucket`: non-empty, no `/`, no `*` (true of every bucket name).  `acct [] = false`: no account
has the empty access key. -/

theorem ordOK_of_perm (ord : List Bytes → List Bytes) (h : ∀ l, (ord l).Perm l) : OrdOK ord :=
  fun l _ => (h l).mem_iff

/-- Validation is deterministic: the outcome (acceptance, or which error) is the same for every
order in which the action maps are iterated. -/
theorem validate_order_independent (ord₁ ord₂ : List Bytes → List Bytes) (bucket : Bytes)
    (acct : Bytes → Bool) (doc : RawDoc) (h₁ : ∀ l, (ord₁ l).Perm l) (h₂ : ∀ l, (ord₂ l).Perm l) :
    validateDocument ord₁ bucket acct doc = validateDocument ord₂ bucket acct doc := by
  unfold validateDocument
  cases hd : decodeDoc doc with
  | error e => rfl
  | ok pol =>
    show (if _ then _ else _) = (if _ then _ else _)
    rw [validatePolicy_order bucket acct pol ord₁ ord₂ (ordOK_of_perm ord₁ h₁) (ordOK_of_perm ord₂ h₂)
      (decodeDoc_actions_valid hd)]

/-- The accept half: every well-formed policy document for the bucket is accepted, in every map
iteration order. -/
theorem validate_accepts_wellformed (ord : List Bytes → List Bytes) (bucket : Bytes)
    (acct : Bytes → Bool) (doc : RawDoc) (hs : Sane bucket) (hacct : acct [] = false)
    (hord : ∀ l, (ord l).Perm l) (hwf : WellFormed .strict bucket acct doc) :
    validateDocument ord bucket acct doc = .ok () := by
  cases doc with
  | stmts l =>
    cases l with
    | nil => exact hwf.elim
    | cons x t =>
      exact (validateDocument_ok_iff ord bucket acct _).2 ⟨List.cons_ne_nil x t,
        fun r hr => stmt_accept ord bucket acct hs hacct (ordOK_of_perm ord hord) r (hwf r hr)⟩
  | _ => exact hwf.elim

/-- Must-accept documents are accepted and must-refuse documents are refused, whatever the map
order: documents that are not valid policies for the bucket — bad JSON, no or empty statement list,
bad effect, a statement lacking Principal, Action or Resource, empty members, unknown action or
principal, `*` mixed with accounts, resource outside the bucket (also `bucket2/*`, `bucket*`),
action/resource kind mismatch (also next to `s3:*`) — are refused. -/
theorem validate_iff_wellformed (ord : List Bytes → List Bytes) (bucket : Bytes)
    (acct : Bytes → Bool) (doc : RawDoc) (hs : Sane bucket) (hacct : acct [] = false)
    (hord : ∀ l, (ord l).Perm l) :
    (WellFormed .strict bucket acct doc → validateDocument ord bucket acct doc = .ok ()) ∧
    (¬ WellFormed .lenient bucket acct doc → validateDocument ord bucket acct doc ≠ .ok ()) := by
  refine ⟨validate_accepts_wellformed ord bucket acct doc hs hacct hord, fun hn hok => hn ?_⟩
  cases doc with
  | stmts l =>
    obtain ⟨hne, hall⟩ := (validateDocument_ok_iff ord bucket acct l).1 hok
    cases l with
    | nil => exact absurd rfl hne
    | cons x t =>
      exact fun r hr => (hall r hr).elim fun st h =>
        stmt_accepted_lenient ord bucket acct hs (ordOK_of_perm ord hord) r st h.1 h.2
  | _ => cases hok

/-! ## Non-vacuity and regression examples: concrete inputs (tests, not proofs of the properties).
`a*b?c` = [97,42,98,63,99]; `axxbbybzc` = [97,120,120,98,98,121,98,122,99]. -/

example : Model.Glob.match [97, 42, 98, 63, 99] [97, 120, 120, 98, 98, 121, 98, 122, 99] = true := by
  rw [match_iff_glob]; decide +kernel
example : G [97, 42, 98, 63, 99] [97, 120, 120, 98, 98, 121, 98, 122] = false := by decide +kernel
/-- a `*` in the pattern is a wildcard also where the subject has a literal `*`: pattern `*`, subject `*a` -/
example : Model.Glob.match [42] [42, 97] = true := by
  rw [match_iff_glob]; decide +kernel
example : Model.Glob.match [42] [42, 97] = G [42] [42, 97] := match_iff_glob _ _

def exGetObject : Bytes := [115, 51, 58, 71, 101, 116, 79, 98, 106, 101, 99, 116]   -- s3:GetObject
def exGetStar : Bytes := [115, 51, 58, 71, 101, 116, 42]                              -- s3:Get*
def exAlice : Bytes := [97, 108, 105, 99, 101]
def exBucket : Bytes := [98, 117, 99, 107, 101, 116]                                  -- bucket
/-- Allow alice s3:Get* on `bucket/*` -/
def exStmt : Stmt := ⟨allowLit, [exAlice], [exGetStar], [exBucket ++ [47, 42]]⟩

example : ActionHit exStmt exGetObject := by decide
example : actionsFindMatch exStmt.actions exGetObject = true := (action_match_iff _ _).2 (by decide)
example : PrincipalHit exStmt exAlice ∧ ¬ PrincipalHit exStmt [98, 111, 98] := by decide
example : principalsContains exStmt.principals exAlice = true := (principal_match_iff _ _).2 (by decide)
/-- the object key is `*k`: a resource string containing `*` -/
example : isAllowed [exStmt] exAlice exGetObject (requestResource exBucket [42, 107]) = true := by
  rw [isAllowed_iff]; decide +kernel
example : verify [exStmt] exAlice exBucket [107] exGetObject = true := by
  rw [verify_iff]; decide +kernel

/-- the same at the level of the decision: Allow `b/?x`, Deny `b/*`, request `b/*x` — the Deny applies
to a key that starts with `*` -/
example : isAllowed [⟨allowLit, [starLit], [exGetObject], [[98, 47, 63, 120]]⟩,
    ⟨denyLit, [starLit], [exGetObject], [[98, 47, 42]]⟩] exAlice exGetObject [98, 47, 42, 120] = false := by
  rw [Bool.eq_false_iff, Ne, isAllowed_iff]; decide +kernel

/-- `{"Statement":[{"Effect":"Allow","Principal":"*","Action":["s3:Get*"],"Resource":["arn:aws:s3:::bucket","arn:aws:s3:::bucket/*"]}]}` -/
def exDocOK : RawDoc := .stmts [⟨.str allowLit, .str starLit, .arr [exGetStar],
    .arr [arnPrefix ++ exBucket, arnPrefix ++ exBucket ++ [47, 42]]⟩]
/-- the same with only the bucket resource and the object action `s3:GetObject`: kind mismatch -/
def exDocBad : RawDoc := .stmts [⟨.str allowLit, .str starLit, .str exGetObject, .str (arnPrefix ++ exBucket)⟩]
/-- another bucket whose name starts with this bucket's: Resource `arn:aws:s3:::bucket2/*` -/
def exDocPrefix : RawDoc := .stmts [⟨.str allowLit, .str starLit, .str exGetObject,
    .str (arnPrefix ++ exBucket ++ [50, 47, 42])⟩]
/-- the kind check goes on past `s3:*`: Action `["s3:*","s3:GetObject"]`, Resource `arn:aws:s3:::bucket` -/
def exDocOrder : RawDoc := .stmts [⟨.str allowLit, .str starLit, .arr [allActions, exGetObject],
    .str (arnPrefix ++ exBucket)⟩]

example : Sane exBucket := by decide
example : WellFormed .strict exBucket (fun _ => false) exDocOK := by decide +kernel
example : validateDocument id exBucket (fun _ => false) exDocOK = .ok () :=
  validate_accepts_wellformed id _ _ _ (by decide) rfl (fun l => List.Perm.refl l) (by decide +kernel)
example : ¬ WellFormed .lenient exBucket (fun _ => false) exDocBad := by decide +kernel
example : validateDocument id exBucket (fun _ => false) exDocBad ≠ .ok () :=
  (validate_iff_wellformed id _ _ _ (by decide) rfl (fun l => List.Perm.refl l)).2 (by decide +kernel)
example : validateDocument id exBucket (fun _ => false) exDocBad = .error .resourceMismatch := by rfl
example : validateDocument id exBucket (fun _ => false) exDocPrefix = .error .invalidResource := by rfl
example : validateDocument id exBucket (fun _ => false) exDocOrder = .error .resourceMismatch := by rfl
example : validateDocument List.reverse exBucket (fun _ => false) exDocOrder = .error .resourceMismatch :=
  (validate_order_independent List.reverse id _ _ _ (fun l => List.reverse_perm l) (fun l => List.Perm.refl l)).trans
    (by rfl)

/-- absent members: `{"Statement":[{"Effect":"Allow"}]}` and a statement with Principal `*` and
Action `s3:*` but no Resource — not well-formed, and refused -/
def exDocMissing : RawDoc := .stmts [⟨.str allowLit, .missing, .missing, .missing⟩]
def exDocNoResource : RawDoc := .stmts [⟨.str allowLit, .str starLit, .str allActions, .missing⟩]
example : ¬ WellFormed .lenient exBucket (fun _ => false) exDocMissing := by decide
example : ¬ WellFormed .lenient exBucket (fun _ => false) exDocNoResource := by decide
example : validateDocument id exBucket (fun _ => false) exDocMissing = .error .missingPrincipal := by rfl
example : validateDocument id exBucket (fun _ => false) exDocNoResource = .error .missingResource := by rfl
example : validateDocument id exBucket (fun _ => false) exDocMissing ≠ .ok () :=
  (validate_iff_wellformed id _ _ _ (by decide) rfl (fun l => List.Perm.refl l)).2 (by decide)

end Vgw.Props.C14
