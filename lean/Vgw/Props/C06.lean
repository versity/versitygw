/-
  C06 — An upload commits only if every integrity assertion holds.
  At the level of `Model.Gw` an upload carries, besides its body, the verdict of the integrity
  assertions the client supplied (Content-MD5, x-amz-content-sha256, x-amz-checksum-*, chunk and
  trailer signatures, declared decoded length). This file states the commit rule over that verdict;
  that the readers compute the verdict correctly for every stream and fragmentation is C12, and
  that the gateway as a whole obeys the rule for every mode × field × corruption is the
  correspondence matrix of this check (judged by the property itself).
-/
import Vgw.Lemmas.GwHandlers
namespace Vgw.Props.C06
open Vgw Vgw.Model.Gw

/-- the integrity assertions a client can attach to an upload, each with its verdict -/
structure Assertions where
  contentMD5 : Option Bool := none       -- none = not supplied; some ok
  payloadSha256 : Option Bool := none
  checksum : Option Bool := none         -- x-amz-checksum-* (header or trailer)
  chunkSignatures : Option Bool := none  -- every chunk signature and the trailer signature
  declaredLength : Bool := true          -- decoded bytes received = declared length
  deriving DecidableEq

def Assertions.allHold (a : Assertions) : Bool :=
  a.contentMD5.getD true && a.payloadSha256.getD true && a.checksum.getD true &&
    a.chunkSignatures.getD true && a.declaredLength

/-- PutObject behind the body readers of the middleware chain (the readers of C12; s3api/utils
csum-reader.go, signed-chunk-reader.go, middlewares/md5.go answer BadDigest / InvalidDigest): it
commits exactly when all supplied assertions hold -/
def upload (cfg : Cfg) (s : State) (w : Who) (now : Int) (b k : Bytes) (p : PutSpec) (nv : Bytes) (a : Assertions) :
    State × Resp :=
  if a.allHold then handle cfg s w now (.putObject b k p nv) else (s, errR "BadDigest")

/-- **If any supplied assertion does not match, the request fails and the state — in particular
the key's content, metadata and version list — is exactly what it was.** -/
theorem mismatch_preserves_state (cfg : Cfg) (s : State) (w : Who) (now : Int) (b k : Bytes) (p : PutSpec)
    (nv : Bytes) (a : Assertions) (h : a.allHold = false) :
    upload cfg s w now b k p nv a = (s, errR "BadDigest") ∧ (upload cfg s w now b k p nv a).2.code ≠ "" := by
  have : upload cfg s w now b k p nv a = (s, errR "BadDigest") := by
    unfold upload; simp [h]
  rw [this]
  exact ⟨rfl, errR_code_ne _⟩

/-- each single violated assertion makes `allHold` false -/
theorem any_violation (a : Assertions)
    (h : a.contentMD5 = some false ∨ a.payloadSha256 = some false ∨ a.checksum = some false ∨
         a.chunkSignatures = some false ∨ a.declaredLength = false) : a.allHold = false := by
  unfold Assertions.allHold
  rcases h with h | h | h | h | h <;> simp [h]

/-- **When all assertions hold the stored object consists of exactly the received bytes** (the
canonical form of the body), never padded, truncated or extended: its size is the body's size. -/
theorem commit_stores_exactly (cfg : Cfg) (hv : cfg.versioning = false) (s : State) (w : Who) (now : Int)
    (b k : Bytes) (p : PutSpec) (nv : Bytes) (a : Assertions) (h : a.allHold = true)
    (hok : (upload cfg s w now b k p nv a).2.code = "") :
    ∃ bk', findBucket (upload cfg s w now b k p nv a).1 b = some bk' ∧
      (bk'.versions k).map (·.data) = [p.data.norm] := by
  unfold upload at hok ⊢
  rw [if_pos h] at hok ⊢
  obtain ⟨bk, hb, _, _, heq⟩ := putObject_ok hok
  rw [heq, putVersions_unversioned hv]
  refine ⟨_, findBucket_setBucket_of hb (setVersions_name bk k _), ?_⟩
  rw [versions_setVersions bk k _ (List.cons_ne_nil _ _)]
  rfl

/-! non-vacuity -/
example : ({ contentMD5 := some false } : Assertions).allHold = false := by decide
example : ({ contentMD5 := some true, checksum := some true } : Assertions).allHold = true := by decide

end Vgw.Props.C06
