/-
  C04 — Requests stay confined to the bucket and object they name.
  The posix backend builds every path as filepath.Join(bucket, key[, …]). These theorems are about
  the lexical model of Clean/Join (`Go.Path`) and of the two validators the gateway applies to
  client-supplied names before any handler runs (`utils.IsPathComponentValid`,
  `utils.IsObjectNameValid`): a name that passes is never resolved — the joined path is the
  bucket, a slash, and the key's own segments in order.
-/
import Vgw.Lemmas.Path
namespace Vgw.Props.C04
open Vgw Vgw.Go.Path

theorem cleanSegs_normal (r : Bool) : ∀ (segs out : List Bytes), (∀ s ∈ segs, Normal s) →
    cleanSegs r segs out = out.reverse ++ segs := by
  intro segs out h
  have := cleanSegs_append_normal r segs [] out h
  rwa [List.append_nil, cleanSegs, List.reverse_append, List.reverse_reverse] at this

theorem cleanSegs_normal_trailing (r : Bool) (ns out : List Bytes) (h : ∀ s ∈ ns, Normal s) :
    cleanSegs r (ns ++ [[]]) out = out.reverse ++ ns := by
  rw [cleanSegs_append_normal r ns [[]] out h, cleanSegs_cons_nil, cleanSegs, List.reverse_append,
    List.reverse_reverse]

/-- what `segsValid` accepts: normal segments, optionally followed by one empty segment (the
trailing slash of a directory object), and never starting with the empty segment -/
theorem segsValid_shape : ∀ (segs : List Bytes) (first : Bool), segsValid segs first = true →
    ∃ ns, (∀ s ∈ ns, Normal s) ∧ (segs = ns ∨ (segs = ns ++ [[]] ∧ (first = true → ns ≠ []))) := by
  intro segs
  induction segs with
  | nil => exact fun _ _ => ⟨[], (fun _ h => nomatch h), Or.inl rfl⟩
  | cons s rest ih =>
    intro first h
    rw [segsValid] at h
    by_cases hd : s = dot ∨ s = dotdot
    · rw [if_pos hd] at h; cases h
    rw [if_neg hd] at h
    by_cases he : s = []
    · rw [if_pos he, Bool.and_eq_true, List.isEmpty_iff, Bool.not_eq_true'] at h
      refine ⟨[], (fun _ h => nomatch h), Or.inr ⟨by rw [he, h.1]; rfl, fun hf => ?_⟩⟩
      rw [hf] at h; cases h.2
    · rw [if_neg he] at h
      obtain ⟨ns, hn, hshape⟩ := ih false h
      have hsn : Normal s := ⟨he, fun e => hd (Or.inl e), fun e => hd (Or.inr e)⟩
      refine ⟨s :: ns, List.forall_mem_cons.mpr ⟨hsn, hn⟩, ?_⟩
      rcases hshape with rfl | ⟨rfl, _⟩
      · exact Or.inl rfl
      · exact Or.inr ⟨rfl, fun _ => List.cons_ne_nil s ns⟩

theorem joinWith_trailing : ∀ (ns : List Bytes), ns ≠ [] → joinWith 47 (ns ++ [[]]) = joinWith 47 ns ++ [47] :=
  fun _ h => joinWith_append 47 h (List.cons_ne_nil [] [])

theorem component_normal (b : Bytes) (h : isPathComponentValid b = true) : Normal b ∧ (47 : UInt8) ∉ b := by
  unfold isPathComponentValid at h
  simp only [Bool.and_eq_true, Bool.not_eq_true', bne_iff_ne, ne_eq, List.isEmpty_eq_false_iff] at h
  obtain ⟨⟨⟨⟨h1, h2⟩, h3⟩, h4⟩, _⟩ := h
  exact ⟨⟨h1, h2, h3⟩, fun hm => Bool.noConfusion (h4.symm.trans (List.contains_iff_mem.mpr hm))⟩

/-- **A validated name is never resolved.** For a bucket name that passes
`IsPathComponentValid` and a key that passes `IsObjectNameValid`, the path the backend builds,
`Clean(bucket + "/" + key)`, is exactly `bucket/` followed by the key's own segments joined by
slashes (the key itself, minus one trailing slash if it has one): no segment is dropped, merged
or climbed over, so the path stays lexically below the bucket it names. -/
theorem confined (b k : Bytes) (hb : isPathComponentValid b = true) (hk : isObjectNameValid k = true) :
    ∃ ns : List Bytes, ns ≠ [] ∧ (∀ s ∈ ns, Normal s) ∧
      clean (b ++ 47 :: k) = b ++ 47 :: joinWith 47 ns ∧
      (k = joinWith 47 ns ∨ k = joinWith 47 ns ++ [47]) := by
  obtain ⟨hbn, hb47⟩ := component_normal b hb
  obtain ⟨ns, hns, hshape⟩ := segsValid_shape (splitOn 47 k) true ((Bool.and_eq_true _ _).mp hk).2
  have hnsne : ns ≠ [] := by
    rcases hshape with h | ⟨_, h⟩
    · exact h ▸ splitOn_ne_nil 47 k
    · exact h rfl
  refine ⟨ns, hnsne, hns, ?_, ?_⟩
  · rw [← joinWith_cons 47 b hnsne]
    refine clean_eq_joinWith ?_ (List.forall_mem_cons.mpr ⟨hbn, hns⟩) (List.cons_ne_nil b ns)
    rw [splitOn_append 47 b k hb47]
    rcases hshape with h | ⟨h, _⟩
    · exact Or.inl (by rw [h])
    · exact Or.inr (by rw [h]; rfl)
  · rw [← join_splitOn 47 k]
    rcases hshape with h | ⟨h, _⟩
    · exact Or.inl (by rw [h])
    · exact Or.inr (by rw [h]; exact joinWith_trailing ns hnsne)

/-- the version id and upload id become single path components the same way -/
theorem component_confined (dir id : Bytes) (hd : isPathComponentValid dir = true) (hi : isPathComponentValid id = true) :
    clean (dir ++ 47 :: id) = dir ++ 47 :: id := by
  obtain ⟨hdn, hd47⟩ := component_normal dir hd
  obtain ⟨hin, hi47⟩ := component_normal id hi
  have hs : splitOn 47 (dir ++ 47 :: id) = [dir, id] := by
    rw [splitOn_append 47 dir id hd47, splitOn_of_not_mem 47 id hi47]
  exact clean_eq_joinWith (Or.inl hs)
    (List.forall_mem_cons.mpr ⟨hdn, List.forall_mem_cons.mpr ⟨hin, fun _ h => nomatch h⟩⟩)
    (List.cons_ne_nil dir [id])

/-! What the validators are there for — without them the join resolves (kernel-evaluated):
`b/../x` is `x`, `b/./x` and `b//x` are `b/x`, `b/a/../../..` leaves the bucket. -/
example : clean ([98, 47] ++ dotdot ++ [47, 120]) = [120] := by decide +kernel
example : clean ([98, 47] ++ dot ++ [47, 120]) = [98, 47, 120] := by decide +kernel
example : clean [98, 47, 47, 120] = [98, 47, 120] := by decide +kernel
example : clean ([98, 47, 97, 47] ++ dotdot ++ [47] ++ dotdot ++ [47] ++ dotdot) = dotdot := by decide +kernel
example : isObjectNameValid ([97, 47] ++ dotdot ++ [47, 120]) = false := by decide +kernel
example : isObjectNameValid [97, 47, 47, 120] = false := by decide +kernel
example : isObjectNameValid [100, 105, 114, 47] = true := by decide +kernel        -- "dir/"
example : isPathComponentValid dotdot = false := by decide +kernel
/-- non-vacuity of `confined`: bucket "b", key "d/k" -/
example : clean ([98] ++ 47 :: [100, 47, 107]) = [98, 47, 100, 47, 107] := by decide +kernel

end Vgw.Props.C04
