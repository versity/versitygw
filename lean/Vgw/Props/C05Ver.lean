/-
  C05 in a bucket with versioning Enabled — theorems about `Model.ConcVer` (any number of overlapping
  writes of one key, every interleaving of their atomic steps: `sched` is an arbitrary list of request
  indices; requests served by one gateway process or by several on the same storage have the same
  steps, the posix backend keeps no in-process state).

  What holds for the code as it is (`Variant.byFd`, no lock; unconditional):
    archive_complete, archive_one_file_per_id, version_ids_distinct, acked_was_published,
    read_by_version_single_write — whatever a GET by version id returns is the complete object
    (data, size, attribute names and values) of exactly one write, the one that was published under
    that id.
  What does NOT hold for the code as it is: that every acknowledged version id can still be read
  (`NoLostVersion`). The negation is proved with a concrete interleaving in `Open/C05.lean`
  (`acked_version_lost`), it is the recorded finding `conc:versioned:version-not-retrievable:*`, and the
  PARTIAL theorem `no_lost_version_serialized_partial` shows what is missing: with the writers of a key
  serialised between opening the current file and publishing (`runL` — a per-key lock the code does
  not have), every version ever published stays retrievable.
-/
import Vgw.Lemmas.ConcVer
namespace Vgw.Props.C05Ver
open Vgw.Model.ConcVer

/-- **Every file in the versioning directory is the complete copy of one published object**: id,
data, size, attribute names and values all come from the one file `createObjVersion` opened. -/
theorem archive_complete (c : Option Obj) (ws sched : List Nat) :
    ∀ v ∈ (run .byFd (init c ws) sched).arch,
      v.complete = true ∧ v.src ∈ (run .byFd (init c ws) sched).hist :=
  (Inv_run (Inv_init c ws) sched).arch

/-- two overlapping writes that archive the same object leave ONE file of that id. -/
theorem archive_one_file_per_id (c : Option Obj) (ws sched : List Nat) :
    ((run .byFd (init c ws) sched).arch.map (·.src.vid)).Nodup :=
  (Inv_run (Inv_init c ws) sched).one

/-- every publication carries a version id no other publication carries. -/
theorem version_ids_distinct (c : Option Obj) (ws sched : List Nat) :
    ((run .byFd (init c ws) sched).hist.map (·.vid)).Nodup :=
  (Inv_run (Inv_init c ws) sched).nodup

/-- a version id is acknowledged only after the object was published under it. -/
theorem acked_was_published (c : Option Obj) (ws sched : List Nat) (v : Nat)
    (hv : v ∈ acked (run .byFd (init c ws) sched)) :
    ∃ o ∈ (run .byFd (init c ws) sched).hist, o.vid = v := by
  obtain ⟨r, hr, hpc⟩ := mem_acked hv
  exact ⟨⟨r.w, v⟩, ((Inv_run (Inv_init c ws) sched).reqs r hr).2 v (Or.inr hpc), rfl⟩

/-- **GET by version id returns the complete object of exactly one write — the one published under
that id** (never a mixture, a prefix or a padded copy), in every interleaving. -/
theorem read_by_version_single_write (c : Option Obj) (ws sched : List Nat) (v : Nat) (e : Ver)
    (h : readVer (run .byFd (init c ws) sched) v = some e) :
    e.complete = true ∧ e.src.vid = v ∧ e.src ∈ (run .byFd (init c ws) sched).hist := by
  have inv := Inv_run (Inv_init c ws) sched
  unfold readVer at h
  split at h
  · rename_i o ho
    split at h
    · rename_i hv
      cases h
      exact ⟨by simp [Ver.complete], hv, inv.cur o ho⟩
    · have := find_vid h
      exact ⟨(inv.arch e this.1).1, this.2, (inv.arch e this.1).2⟩
  · have := find_vid h
    exact ⟨(inv.arch e this.1).1, this.2, (inv.arch e this.1).2⟩

/-- the full statement for version ids: every acknowledged version id can be read back.
    FALSE for the code as it is (`Open/C05.acked_version_lost`). -/
def NoLostVersion (s : Sys) : Prop := ∀ v ∈ acked s, ∃ e, readVer s v = some e

theorem eq_of_src_vid_eq {l : List Ver} (hnd : (l.map (·.src.vid)).Nodup) {a b : Ver} (ha : a ∈ l) (hb : b ∈ l)
    (h : a.src.vid = b.src.vid) : a = b :=
  eq_of_map_eq hnd ha hb h

/-- PARTIAL (writers serialised between openCur and publish — `runL`; the code has no such lock):
**every object ever published stays retrievable, byte-exact, under its version id.** -/
theorem no_lost_version_serialized_partial (c : Option Obj) (ws sched : List Nat) :
    ∀ o ∈ (runL .byFd (init c ws) sched).hist,
      readVer (runL .byFd (init c ws) sched) o.vid = some ⟨o, o⟩ := by
  intro o ho
  have inv := InvL_runL (InvL_init c ws) sched
  generalize runL .byFd (init c ws) sched = s at *
  have harch : (⟨o, o⟩ : Ver) ∈ s.arch →
      s.arch.find? (fun e => e.src.vid == o.vid) = some ⟨o, o⟩ := by
    intro hin
    cases hf : s.arch.find? (fun e => e.src.vid == o.vid) with
    | none =>
      have := List.find?_eq_none.mp hf ⟨o, o⟩ hin
      simp at this
    | some e =>
      have he := find_vid hf
      rw [eq_of_src_vid_eq inv.base.one he.1 hin he.2]
  unfold readVer
  rcases inv.retr o ho with hc | hin
  · simp [hc]
  · split
    · rename_i c' hc'
      split
      · rename_i hv
        have : c' = o := eq_of_map_eq inv.base.nodup (inv.base.cur c' hc') ho hv
        rw [this]
      · exact harch hin
    · exact harch hin

/-- … in particular every acknowledged version id (serialised writers). -/
theorem no_lost_acked_serialized_partial (c : Option Obj) (ws sched : List Nat) :
    NoLostVersion (runL .byFd (init c ws) sched) := by
  intro v hv
  obtain ⟨r, hr, hpc⟩ := mem_acked hv
  have ho := ((InvL_runL (InvL_init c ws) sched).base.reqs r hr).2 v (Or.inr hpc)
  exact ⟨_, no_lost_version_serialized_partial c ws sched ⟨r.w, v⟩ ho⟩

/-! ## non-vacuity: concrete runs meet the hypotheses and exercise the conclusions -/

/-- three writers, fully overlapping: all three archive object 0 — one complete file of id 1. -/
example : (run .byFd (init (some ⟨0, 1⟩) [1, 2, 3]) [0, 1, 0, 2, 1, 0, 1, 2, 2, 0, 1, 2]).arch
    = [⟨⟨0, 1⟩, ⟨0, 1⟩⟩] := by decide +kernel

/-- writer 0 finishes, then writers 1 and 2 overlap: two complete files, one per id. -/
example : (run .byFd (init (some ⟨0, 1⟩) [1, 2, 3]) [0, 0, 0, 0, 1, 2, 1, 2, 1, 2, 1, 2]).arch
    = [⟨⟨1, 2⟩, ⟨1, 2⟩⟩, ⟨⟨0, 1⟩, ⟨0, 1⟩⟩] := by decide +kernel

/-- serialised: writer 1 waits until writer 0 has published; all three objects readable. -/
example : let s := runL .byFd (init (some ⟨0, 1⟩) [1, 2]) [0, 1, 0, 1, 0, 1, 1, 1, 0, 1]
    acked s = [2, 3] ∧ readVer s 1 = some ⟨⟨0, 1⟩, ⟨0, 1⟩⟩ ∧ readVer s 2 = some ⟨⟨1, 2⟩, ⟨1, 2⟩⟩ ∧
      readVer s 3 = some ⟨⟨2, 3⟩, ⟨2, 3⟩⟩ := by decide +kernel

end Vgw.Props.C05Ver
