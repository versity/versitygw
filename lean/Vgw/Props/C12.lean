/-
  C12 — aws-chunked decoding is independent of stream fragmentation.

  Theorems about `Model.ChunkSigned` / `Model.ChunkUnsigned` (the models of the two readers in
  s3api/utils as of /repo commit 7242bc4) against `Spec.Chunked.Valid`, for EVERY hash family
  (SHA-256, HMAC and the trailing checksum are function parameters) and all three encodings:
  a valid stream decodes to exactly its payload however it is cut into reads; the signed reader
  treats ARBITRARY bytes alike however they are delivered, and never panics.

  Not proved (tested only, by the oracle on every observation of the harness): soundness for
  arbitrary invalid streams (wrong signatures, malformed bytes).
-/
import Vgw.Lemmas.ChunkSigned
import Vgw.Lemmas.ChunkUnsigned
import Vgw.Lemmas.ChunkSpec
import Vgw.Lemmas.Fuel
import Vgw.Lemmas.ChunkEof
import Vgw.Lemmas.ChunkNoPanic
namespace Vgw.Props.C12
open Vgw Vgw.Spec.Chunked Vgw.Model
open Vgw.Lemmas.ChunkSigned (signedCfg SignedHyps variantOf)
open Vgw.Lemmas.ChunkUnsigned (ucfg UnsignedHyps)
open Vgw.Lemmas.ChunkMerge (flat lastFlag Good StashOK)

/-- `ds` (fragment, delivered-together-with-io.EOF) is a way the underlying reader can hand the
stream `s` to the signed reader: non-empty fragments in order, io.EOF at most with the last one
(`ChunkSigned.run` supplies the bare `(0, io.EOF)` after the last delivery). -/
def Partition (s : Bytes) (ds : List (Bytes × Bool)) : Prop :=
  (ds.map (·.1)).flatten = s ∧ (∀ d ∈ ds, d.1 ≠ []) ∧ (∀ d ∈ ds.dropLast, d.2 = false)

instance (s : Bytes) (ds : List (Bytes × Bool)) : Decidable (Partition s ds) := by
  unfold Partition; infer_instance

/-- 5 GiB: the largest chunk the unsigned reader buffers (`maxUnsignedChunkSize`) -/
def chunkLimit : Nat := 5368709120

/-! ### the signed reader does not see how the stream is cut into reads -/

/-- **Fragmentation independence of the signed reader, for arbitrary bytes.**  Whatever the bytes
are — a valid stream, a truncated one, one with wrong signatures, garbage — and however they are cut
into non-empty deliveries (io.EOF with the last one or afterwards), the run hands out the same bytes
and ends with the same error value as the run that delivers everything in one `Read`.
`StashOK` is the reader's own resource limit: a partial chunk header waiting in the stash never
exceeds 1024 bytes (`Open.C12.stash_limit_matters`: the limit is real). -/
theorem signed_fragmentation_independent (cfg : ChunkSigned.Cfg) (seedSig : Bytes) (ds : List (Bytes × Bool))
    (hne : ds ≠ []) (hgood : Good ds) (hmax : ((flat ds).length : Int) ≤ ChunkSigned.intMax)
    (hst : StashOK cfg (ChunkSigned.init seedSig) ds) :
    ChunkSigned.run cfg seedSig ds = ChunkSigned.run cfg seedSig [(flat ds, lastFlag ds)] :=
  Lemmas.ChunkMerge.run_merge cfg ds.length ds (Nat.le_refl _) _ [] hne hgood hmax hst

/-- the two error values an invalid stream can be refused with depending on how io.EOF arrives -/
def EofErrPair (a b : ChunkSigned.Status) : Prop :=
  (a = .err .invalidFormat ∧ b = .err .unexpectedEOF) ∨ (a = .err .unexpectedEOF ∧ b = .err .invalidFormat)

/-- **io.EOF together with the last bytes or on its own afterwards** (arbitrary bytes): the bytes
handed out are the same and the outcome is the same — a stream that ends inside a chunk header is
refused with errInvalidChunkFormat in one case and io.ErrUnexpectedEOF in the other. -/
theorem signed_eof_delivery_independent (cfg : ChunkSigned.Cfg) (seedSig s : Bytes) (hs : s ≠ [])
    (hmax : (s.length : Int) ≤ ChunkSigned.intMax) :
    (ChunkSigned.run cfg seedSig [(s, true)]).1 = (ChunkSigned.run cfg seedSig [(s, false)]).1 ∧
    ((ChunkSigned.run cfg seedSig [(s, true)]).2 = (ChunkSigned.run cfg seedSig [(s, false)]).2 ∨
     EofErrPair (ChunkSigned.run cfg seedSig [(s, true)]).2 (ChunkSigned.run cfg seedSig [(s, false)]).2) := by
  have := Lemmas.ChunkEof.oneshot_eof_mode cfg (ChunkSigned.init seedSig) s hmax
  exact ⟨this.1, this.2.imp id .inl⟩

theorem flat_take_drop (ds : List (Bytes × Bool)) (k : Nat) : flat (ds.take k) ++ flat (ds.drop k) = flat ds := by
  simp only [flat, ← List.flatten_append, ← List.map_append, List.take_append_drop]

theorem flat_ne_nil (ds : List (Bytes × Bool)) (hne : ds ≠ []) (hg : ∀ d ∈ ds, d.1 ≠ []) : flat ds ≠ [] := by
  cases ds with
  | nil => exact absurd rfl hne
  | cons d ds =>
    have := hg d (by simp)
    simp [flat, this]

/-- **The outcome does not depend on the delivery at all** (arbitrary bytes): two lists of
deliveries of the same wire bytes — cut differently, io.EOF attached or not — hand out the same
bytes and both accept or both refuse (with the same error value up to the swap above). -/
theorem signed_outcome_independent (cfg : ChunkSigned.Cfg) (seedSig : Bytes) (ds ds' : List (Bytes × Bool))
    (hne : ds ≠ []) (hne' : ds' ≠ []) (hgood : Good ds) (hgood' : Good ds') (hflat : flat ds = flat ds')
    (hmax : ((flat ds).length : Int) ≤ ChunkSigned.intMax)
    (hst : StashOK cfg (ChunkSigned.init seedSig) ds) (hst' : StashOK cfg (ChunkSigned.init seedSig) ds') :
    (ChunkSigned.run cfg seedSig ds).1 = (ChunkSigned.run cfg seedSig ds').1 ∧
    ((ChunkSigned.run cfg seedSig ds).2 = (ChunkSigned.run cfg seedSig ds').2 ∨
     EofErrPair (ChunkSigned.run cfg seedSig ds).2 (ChunkSigned.run cfg seedSig ds').2) := by
  rw [signed_fragmentation_independent cfg seedSig ds hne hgood hmax hst,
    signed_fragmentation_independent cfg seedSig ds' hne' hgood' (hflat ▸ hmax) hst', ← hflat]
  have h := signed_eof_delivery_independent cfg seedSig (flat ds) (flat_ne_nil ds hne hgood.1) hmax
  cases h1 : lastFlag ds <;> cases h2 : lastFlag ds'
  · exact ⟨rfl, Or.inl rfl⟩
  · refine ⟨h.1.symm, ?_⟩
    rcases h.2 with e | ⟨a, b⟩ | ⟨a, b⟩
    · exact Or.inl e.symm
    · exact Or.inr (Or.inr ⟨b, a⟩)
    · exact Or.inr (Or.inl ⟨b, a⟩)
  · exact h
  · exact ⟨rfl, Or.inl rfl⟩

/-- **The signed reader never panics**: arbitrary bytes, arbitrary deliveries. -/
theorem signed_never_panics (cfg : ChunkSigned.Cfg) (seedSig : Bytes) (ds : List (Bytes × Bool)) :
    (ChunkSigned.run cfg seedSig ds).2 ≠ .panic :=
  Lemmas.ChunkNoPanic.runFrom_no_panic cfg ds _ [] ⟨Int.le_refl 0, .inl rfl⟩

/-- the stash limit is never reached on (prefixes of) valid streams -/
theorem stashOK_of_prefix (P : Params) (tr : Bool) (L : Nat) (H : SignedHyps P tr L) (cs : List Chunk) (hz : Bytes)
    (hwf : WF cs hz) (ds : List (Bytes × Bool)) (G : Bytes)
    (hs : flat ds ++ G = renderSigned P tr P.seedSig [] cs hz) (hgood : Good ds)
    (hmax : ((flat ds).length : Int) ≤ ChunkSigned.intMax) :
    StashOK (signedCfg P tr L) (ChunkSigned.init P.seedSig) ds := by
  intro k hk0 hkl _
  have hF : flat (ds.take k) ≠ [] := flat_ne_nil _ (by
    intro e
    rcases List.take_eq_nil_iff.1 e with h | h
    · omega
    · subst h; simp at hkl) (fun d hd => hgood.1 d (List.mem_of_mem_take hd))
  have hD : flat (ds.drop k) ≠ [] := flat_ne_nil _ (by
    intro e
    have := List.drop_eq_nil_iff.1 e
    omega) (fun d hd => hgood.1 d (List.mem_of_mem_drop hd))
  have hsplit := flat_take_drop ds k
  have hl := congrArg List.length hsplit
  simp only [List.length_append] at hl
  exact (Lemmas.ChunkSigned.read_prefix P tr L H cs hz hwf (flat (ds.take k)) (flat (ds.drop k) ++ G) hF (by simp [hD])
    (by rw [← List.append_assoc, hsplit]; exact hs) (by omega) _).2

/-- **C12, completeness, signed encodings, full strength**: a valid signed (or signed-with-trailer)
stream decodes to exactly its payload, then a clean EOF, for EVERY partition of the wire bytes into
reads (and so for every schedule of destination buffers: a smaller buffer only cuts finer). -/
theorem decode_complete_signed (P : Params) (tr : Bool) (L : Nat) (H : SignedHyps P tr L) (s p : Bytes)
    (hv : Valid P (variantOf tr) s p) (hlen : s.length ≤ chunkBound) (ds : List (Bytes × Bool))
    (hpart : Partition s ds) : ChunkSigned.run (signedCfg P tr L) P.seedSig ds = (p, .eof) := by
  obtain ⟨cs, hz, hwf, rfl, rfl⟩ := hv
  rw [Lemmas.ChunkSigned.render_variantOf] at hpart hlen
  obtain ⟨hflat, hne, hflags⟩ := hpart
  have hfl : flat ds = renderSigned P tr P.seedSig [] cs hz := hflat
  have hdsne : ds ≠ [] := fun e =>
    Lemmas.ChunkSigned.renderSigned_ne_nil P tr P.seedSig [] cs hz (hfl.symm.trans (e ▸ rfl))
  have hmax : ((flat ds).length : Int) ≤ ChunkSigned.intMax := by
    rw [hfl, intMax_eq_chunkBound]; exact Int.ofNat_le.2 hlen
  rw [signed_fragmentation_independent _ _ ds hdsne ⟨hne, hflags⟩ hmax
    (stashOK_of_prefix P tr L H cs hz hwf ds [] (by simpa using hfl) ⟨hne, hflags⟩ hmax), hfl]
  obtain ⟨st', h⟩ := Lemmas.ChunkSigned.read_whole P tr L H cs hz hwf.chunks hwf.final hwf.payload (hfl ▸ hmax) (lastFlag ds)
    (renderSigned P tr P.seedSig [] cs hz).length
  simp [ChunkSigned.run, ChunkSigned.runFrom, h]

theorem read_end_not_eof (cfg : ChunkSigned.Cfg) (st : ChunkSigned.State) :
    (ChunkSigned.read cfg st [] true 0).2.status ≠ .eof := by
  by_cases h : 0 ≤ st.chunkDataLeft
  · rw [Lemmas.ChunkMerge.read_data cfg st [] true 0 (by simpa using h)]; nofun
  · rw [Lemmas.ChunkMerge.read_neg cfg st [] true 0 (by omega)]; nofun

/-- **Every proper truncation of a valid signed stream is refused, however it is fragmented**
(io.EOF delivered after the last bytes): the run never ends in a clean EOF. -/
theorem truncation_rejected_signed (P : Params) (tr : Bool) (L : Nat) (H : SignedHyps P tr L) (s p : Bytes)
    (hv : Valid P (variantOf tr) s p) (hlen : s.length ≤ chunkBound) (k : Nat) (hk : k < s.length)
    (ds : List (Bytes × Bool)) (hpart : Partition (s.take k) ds) (hnoeof : ∀ d ∈ ds, d.2 = false) :
    (ChunkSigned.run (signedCfg P tr L) P.seedSig ds).2 ≠ .eof := by
  obtain ⟨cs, hz, hwf, rfl, rfl⟩ := hv
  rw [Lemmas.ChunkSigned.render_variantOf] at hpart hlen hk
  obtain ⟨hflat, hne, hflags⟩ := hpart
  have hfl : flat ds = (renderSigned P tr P.seedSig [] cs hz).take k := hflat
  by_cases hds : ds = []
  · subst hds
    exact Lemmas.ChunkMerge.runFrom_nil_ne_eof _ _ _
  · have hG : (renderSigned P tr P.seedSig [] cs hz).drop k ≠ [] := by
      intro e; have := congrArg List.length e; simp at this; omega
    have hsplit : flat ds ++ (renderSigned P tr P.seedSig [] cs hz).drop k = renderSigned P tr P.seedSig [] cs hz := by
      rw [hfl, List.take_append_drop]
    have hmax : ((flat ds).length : Int) ≤ ChunkSigned.intMax := by
      rw [hfl, intMax_eq_chunkBound]; exact Int.ofNat_le.2 (Nat.le_trans (List.length_take_le' _ _) hlen)
    have hlf : lastFlag ds = false := by
      unfold lastFlag
      cases hl : ds.getLast? with
      | none => rfl
      | some d => exact hnoeof d (List.mem_of_getLast? hl)
    have hp := Lemmas.ChunkSigned.read_prefix P tr L H cs hz hwf (flat ds) _ (flat_ne_nil ds hds hne) hG hsplit hmax
      (flat ds).length
    rw [signed_fragmentation_independent _ _ ds hds ⟨hne, hflags⟩ hmax
      (stashOK_of_prefix P tr L H cs hz hwf ds _ hsplit ⟨hne, hflags⟩ hmax), hlf, ChunkSigned.run,
      Lemmas.ChunkMerge.runFrom_cons, Lemmas.ChunkMerge.tail_nil hp.1]
    exact Lemmas.ChunkMerge.runFrom_nil_ne_eof _ _ _

/-! ### unsigned reader: complete for every fragmentation and buffer schedule -/

theorem payload_chunk_le (cs : List Chunk) : ∀ c ∈ cs, c.2.length ≤ (payloadOf cs).length := by
  induction cs with
  | nil => intro c hc; simp at hc
  | cons a cs ih =>
    intro c hc
    simp only [payloadOf, List.map_cons, List.flatten_cons, List.length_append] at ih ⊢
    simp at hc
    rcases hc with rfl | hc
    · omega
    · have := ih c hc; omega

theorem payload_le_render (P : Params) (cs : List Chunk) :
    ∀ (acc hz : Bytes), (payloadOf cs).length ≤ (renderUnsigned P acc cs hz).length := by
  induction cs with
  | nil => intro acc hz; simp [payloadOf]
  | cons c cs ih =>
    intro acc hz
    have := ih (acc ++ c.2) hz
    simp [payloadOf, renderUnsigned] at this ⊢
    omega

/-- **The unsigned reader decodes every valid stream, for every fragmentation and every schedule of
non-empty destination buffers**; side condition: no chunk exceeds the 5 GiB the reader is willing to
buffer.  (`bufio.Reader` is the trusted parameter that makes the fragmentation of the underlying
reads invisible.) -/
theorem decode_complete_unsigned_chunks (P : Params) (H : UnsignedHyps P) (cs : List Chunk) (hz : Bytes)
    (hwf : WF cs hz) (hlim : ∀ c ∈ cs, c.2.length ≤ chunkLimit)
    (frags : List Bytes) (caps : Nat → Nat) (hfr : frags.flatten = render P .unsignedTrailer cs hz)
    (hcaps : ∀ i, 0 < caps i) : ChunkUnsigned.run (ucfg P) frags caps = (payloadOf cs, .eof) := by
  have hok : Lemmas.ChunkUnsigned.ChunksOK cs := by
    intro c hc
    exact ⟨(hwf.chunks c hc).1, (hwf.chunks c hc).2, hlim c hc⟩
  unfold ChunkUnsigned.run
  rw [hfr]
  have := Lemmas.ChunkUnsigned.runFrom_spec P H hz hwf.final caps hcaps cs
    (ChunkUnsigned.init (render P .unsignedTrailer cs hz)) [] []
    (2 * (render P .unsignedTrailer cs hz).length + 2) 0
    (by have := payload_le_render P cs [] hz; simp only [ChunkUnsigned.init, render, List.nil_append]; omega)
    hok ⟨rfl, rfl⟩
  simpa [ChunkUnsigned.init] using this

theorem decode_complete_unsigned (P : Params) (H : UnsignedHyps P) (s p : Bytes)
    (hv : Valid P .unsignedTrailer s p) (hlen : p.length ≤ chunkLimit)
    (frags : List Bytes) (caps : Nat → Nat) (hfr : frags.flatten = s) (hcaps : ∀ i, 0 < caps i) :
    ChunkUnsigned.run (ucfg P) frags caps = (p, .eof) := by
  obtain ⟨cs, hz, hwf, rfl, rfl⟩ := hv
  exact decode_complete_unsigned_chunks P H cs hz hwf
    (fun c hc => Nat.le_trans (payload_chunk_le cs c hc) hlen) frags caps hfr hcaps

/-- **C12, completeness, full strength, all three encodings.** -/
theorem decode_complete :
    (∀ (P : Params) (tr : Bool) (L : Nat), SignedHyps P tr L → ∀ s p, Valid P (variantOf tr) s p →
      s.length ≤ chunkBound → ∀ ds, Partition s ds → ChunkSigned.run (signedCfg P tr L) P.seedSig ds = (p, .eof)) ∧
    (∀ (P : Params), UnsignedHyps P → ∀ s p, Valid P .unsignedTrailer s p → p.length ≤ chunkLimit →
      ∀ (frags : List Bytes) (caps : Nat → Nat), frags.flatten = s → (∀ i, 0 < caps i) →
        ChunkUnsigned.run (ucfg P) frags caps = (p, .eof)) :=
  ⟨fun P tr L H s p hv hl ds hp => decode_complete_signed P tr L H s p hv hl ds hp,
   fun P H s p hv hl frags caps hf hc => decode_complete_unsigned P H s p hv hl frags caps hf hc⟩

/-! ### spec level: a stream determines its payload; valid streams are prefix-free -/

/-- **A stream is a valid encoding of at most one payload** (all three encodings, all hash families). -/
theorem valid_functional (P : Params) (v : Variant) (s p p' : Bytes)
    (h : Valid P v s p) (h' : Valid P v s p') : p = p' := by
  obtain ⟨cs, hz, hwf, rfl, rfl⟩ := h
  obtain ⟨cs', hz', hwf', e, rfl⟩ := h'
  exact (Lemmas.ChunkSpec.render_inj P v cs cs' hz hz' [] [] hwf hwf' (by simpa using e)).1

/-- **No valid stream is a proper prefix of a valid stream**: every proper truncation of a valid
stream is invalid, and so is a valid stream with anything appended. -/
theorem valid_prefix_free (P : Params) (v : Variant) (s t p p' : Bytes)
    (h : Valid P v s p) (h' : Valid P v (s ++ t) p') : t = [] := by
  obtain ⟨cs, hz, hwf, rfl, rfl⟩ := h
  obtain ⟨cs', hz', hwf', e, rfl⟩ := h'
  exact (Lemmas.ChunkSpec.render_inj P v cs cs' hz hz' t [] hwf hwf' (by simpa using e)).2

/-- every proper prefix of a valid stream is invalid (for every payload) -/
theorem truncation_invalid (P : Params) (v : Variant) (s p : Bytes) (h : Valid P v s p) (k : Nat)
    (hk : k < s.length) (p' : Bytes) : ¬ Valid P v (s.take k) p' := by
  intro h'
  have e : s = s.take k ++ s.drop k := (List.take_append_drop k s).symm
  have := valid_prefix_free P v (s.take k) (s.drop k) p' p h' (e ▸ h)
  have hl := congrArg List.length this
  simp at hl; omega

/-- **The canonical encoder yields valid streams**: `Valid` is inhabited for every payload, every
chunking and every encoding (non-vacuity of everything above). -/
theorem encode_valid (P : Params) (v : Variant) (p : Bytes) (sizes : List Nat) (hp : p.length ≤ chunkBound) :
    Valid P v (encode P v p sizes) p :=
  Lemmas.ChunkSpec.encode_valid P v p sizes hp

/-- **The executable oracle agrees with `Valid` on valid streams**: it admits exactly "the payload,
then a clean EOF" — no rejection, no crash, no other payload. -/
theorem oracle_on_valid (P : Params) (v : Variant) (s p : Bytes) (hcr : (13 : UInt8) ∉ P.trailerName)
    (hv : Valid P v s p) (o : Obs) : admitsB P v s o = true ↔ o = .ok p := by
  have hc := Lemmas.ChunkSpec.check_complete P v s p hcr hv
  unfold admitsB classify
  simp only [hc]
  cases o with
  | ok q => simp only [beq_iff_eq, Obs.ok.injEq]; exact eq_comm
  | rejected => simp
  | crashed => simp

/-- the oracle never admits a crash, whatever the stream -/
theorem oracle_never_admits_crash (P : Params) (v : Variant) (s : Bytes) : admitsB P v s .crashed = false := by
  -- the arms of `admitsB` that can answer `true` have `.ok _` or `.rejected` as observation
  unfold admitsB
  rcases classify P v s with ⟨_ | _ | _, _ | _⟩ <;> rfl

/-! ### a chunk that nothing signs is refused

`parseAndRemoveChunkInfo` verifies the signature of a chunk only when it reaches the next header and
only if one is pending; a header whose `chunk-signature=` value is empty would therefore pass
unverified and stand outside the signature chain. The reader refuses it at the header
(repo fix 7242bc4), for every state, buffer, size and offset. -/

/-- whatever the reader state and the buffer: once the pending check has passed and the header parser
has delivered a chunk header whose signature value is empty, the activation ends in
SignatureDoesNotMatch, hands out no byte, and does not record the empty signature -/
theorem empty_chunk_signature_refused (cfg : ChunkSigned.Cfg) (fuel : Nat) (st st1 st2 : ChunkSigned.State)
    (p : Bytes) (size off : Int)
    (hchk : (if st.parsedSig ≠ [] then ChunkSigned.checkSignature cfg st else .ok st) = .ok st1)
    (hhdr : ChunkSigned.parseChunkHeaderBytes cfg st1 p = (st2, .chunk size [] off)) :
    ChunkSigned.parseAndRemove cfg (fuel + 1) st p = (st2, ⟨[], .err .sigMismatch⟩) := by
  rw [ChunkSigned.parseAndRemove, Lemmas.ChunkMerge.parStep_ok _ p hchk]
  exact Lemmas.ChunkMerge.parBody_nosig _ hhdr

/-- no data byte is ever handed out by an activation that met an empty chunk signature, even if the
pending check failed first -/
theorem empty_chunk_signature_no_output (cfg : ChunkSigned.Cfg) (fuel : Nat) (st : ChunkSigned.State) (p : Bytes)
    (h : ∀ st1, ∃ st2 size off, ChunkSigned.parseChunkHeaderBytes cfg st1 p = (st2, .chunk size [] off)) :
    (ChunkSigned.parseAndRemove cfg (fuel + 1) st p).2.out = [] ∧
      (ChunkSigned.parseAndRemove cfg (fuel + 1) st p).2.status ≠ .nil ∧
      (ChunkSigned.parseAndRemove cfg (fuel + 1) st p).2.status ≠ .eof := by
  rw [ChunkSigned.parseAndRemove]
  cases hchk : Lemmas.ChunkMerge.pendingCheck cfg st with
  | error e => rw [Lemmas.ChunkMerge.parStep_error _ p hchk]; simp
  | ok st1 =>
    obtain ⟨st2, size, off, hh⟩ := h st1
    rw [Lemmas.ChunkMerge.parStep_ok _ p hchk, Lemmas.ChunkMerge.parBody_nosig _ hh]
    simp

/-! ### totality of the models

The models are total functions; the only artefact is the fuel of the recursive parts, and it is
never exhausted. -/

/-- `Read` of the signed reader never runs out of fuel -/
theorem signed_fuel_suffices (cfg : ChunkSigned.Cfg) (st : ChunkSigned.State) (frag : Bytes) (isEOF : Bool) (cap : Nat) :
    (ChunkSigned.read cfg st frag isEOF cap).2.status ≠ .fuel := by
  by_cases hin : st.chunkDataLeft < (frag.length : Int)
  · by_cases hneg : st.chunkDataLeft < 0
    · rw [Lemmas.ChunkMerge.read_neg cfg st frag isEOF cap hneg]; nofun
    · rw [Lemmas.ChunkMerge.read_hdr cfg st frag isEOF cap (by omega) hin, Lemmas.ChunkMerge.prepend_status]
      exact Lemmas.Fuel.parseAndRemove_no_fuel cfg _ _ _ (by simp only [List.length_drop]; omega)
  · rw [Lemmas.ChunkMerge.read_data cfg st frag isEOF cap (by omega)]
    cases isEOF <;> nofun

/-- `Read` of the unsigned reader never runs out of fuel -/
theorem unsigned_fuel_suffices (cfg : ChunkUnsigned.Cfg) (st : ChunkUnsigned.State) (cap : Nat) :
    (ChunkUnsigned.read cfg st cap).2.status ≠ .fuel := by
  unfold ChunkUnsigned.read
  split
  · simp only []
    split
    · simp
    · exact Lemmas.Fuel.loop_no_fuel cfg cap _ st _ (by omega)
  · exact Lemmas.Fuel.loop_no_fuel cfg cap _ st _ (by omega)

/-! ### non-vacuity: the hypotheses of every theorem are met by non-trivial inputs

A toy hash family keeps the examples kernel-checkable (`decide`); the harness runs the same shapes
with real SHA-256 / HMAC / CRC32 against the real readers. -/

/-- a toy hash family: every digest is empty, every MAC is the byte 01 (so every signature is "01") -/
def toy : Params :=
  { sha := fun _ => [], hmac := fun _ _ => [1], csum := fun _ => [], key := [], amzDate := [], scope := [],
    seedSig := [], trailerName := [120] }

theorem toy_signed_hyps (tr : Bool) : SignedHyps toy tr 0 :=
  ⟨by intro _ _; simp [toy], by simp [toy], by decide, by intro _; rfl,
   by intro prev d acc; simp [toy, chunkSig, trailerSig, checksumB64, hexEncode, b64Encode, maxSizeDigits, sigIntro,
        trailerSigIntro, ChunkSigned.maxHeaderSize]⟩

theorem toy_unsigned_hyps : UnsignedHyps toy :=
  ⟨⟨120, [], rfl, by decide⟩, by decide, by decide⟩

/-- `1;chunk-signature=01 CRLF A CRLF 0;chunk-signature=01 CRLF CRLF` — payload "A" in one chunk -/
def s1 : Bytes :=
  [49] ++ sigIntro ++ [48, 49] ++ [13, 10] ++ [65] ++ [13, 10] ++ [48] ++ sigIntro ++ [48, 49] ++ [13, 10] ++ [13, 10]

theorem s1_valid : Valid toy (variantOf false) s1 [65] :=
  ⟨[([49], [65])], [48], ⟨by decide, by decide, by decide, by decide, by decide⟩, by decide +kernel, by decide⟩

/-- payload "ABC" in chunks of 2 + 1, unsigned with trailer -/
def u3 : Bytes := encode toy .unsignedTrailer [65, 66, 67] [2]

example : ChunkUnsigned.run (ucfg toy) [u3.take 5, u3.drop 5] (fun i => i % 3 + 1) = ([65, 66, 67], .eof) :=
  decode_complete_unsigned toy toy_unsigned_hyps u3 [65, 66, 67] (encode_valid toy _ _ _ (by decide +kernel)) (by decide +kernel)
    _ _ (by simp) (by intro i; omega)

example : ChunkUnsigned.run (ucfg toy) [u3.take 5, u3.drop 5] (fun i => i % 3 + 1) = ([65, 66, 67], .eof) := by decide +kernel

/-- `s1` cut inside its first header, inside the final header (after the CR of its leading CRLF) and
inside the final signature; io.EOF with the last bytes -/
def ds1 : List (Bytes × Bool) :=
  [(s1.take 7, false), ((s1.drop 7).take 17, false), ((s1.drop 24).take 10, false), (s1.drop 34, true)]

theorem ds1_partition : Partition s1 ds1 := by decide +kernel

example : ChunkSigned.run (signedCfg toy false 0) toy.seedSig ds1 = ([65], .eof) :=
  decode_complete_signed toy false 0 (toy_signed_hyps false) s1 [65] s1_valid (by decide +kernel) ds1 ds1_partition

example : ChunkSigned.run (signedCfg toy false 0) toy.seedSig ds1 = ([65], .eof) := by decide +kernel

/-- payload "ABC" in chunks of 1 + 2, signed with trailer -/
def t3 : Bytes := encode toy .signedTrailer [65, 66, 67] [1]

example : ChunkSigned.run (signedCfg toy true 0) toy.seedSig [(t3.take 30, false), (t3.drop 30, false)] = ([65, 66, 67], .eof) :=
  decode_complete_signed toy true 0 (toy_signed_hyps true) t3 [65, 66, 67]
    (encode_valid toy .signedTrailer _ _ (by decide +kernel)) (by decide +kernel) _ (by decide +kernel)

-- garbage, too, is treated alike however it is cut (here: rejected alike)
example : ChunkSigned.run (signedCfg toy false 0) [] [([49, 59, 99], false), ([0, 0], true)] =
    ChunkSigned.run (signedCfg toy false 0) [] [([49, 59, 99, 0, 0], true)] :=
  signed_fragmentation_independent _ _ _ (by decide +kernel) (by unfold Good; decide +kernel) (by decide +kernel) (by
    intro k hk0 hkl
    have : k = 1 := by simp at hkl; omega
    subst this
    decide +kernel)

example (ds : List (Bytes × Bool)) (h : Partition (s1.take 30) ds) (hn : ∀ d ∈ ds, d.2 = false) :
    (ChunkSigned.run (signedCfg toy false 0) toy.seedSig ds).2 ≠ .eof :=
  truncation_rejected_signed toy false 0 (toy_signed_hyps false) s1 [65] s1_valid (by decide +kernel) 30 (by decide +kernel) ds h hn

example : (ChunkSigned.run (signedCfg toy false 0) toy.seedSig [(s1.take 30, true)]).1 =
    (ChunkSigned.run (signedCfg toy false 0) toy.seedSig [(s1.take 30, false)]).1 :=
  (signed_eof_delivery_independent _ _ _ (by decide +kernel) (by decide +kernel)).1

example : (ChunkSigned.run (signedCfg toy false 0) toy.seedSig ds1).1 =
    (ChunkSigned.run (signedCfg toy false 0) toy.seedSig [(s1, false)]).1 :=
  (signed_outcome_independent _ _ ds1 [(s1, false)] (by decide +kernel) (by decide +kernel) (by unfold Good; decide +kernel) (by unfold Good; decide +kernel)
    (by decide +kernel) (by decide +kernel)
    (stashOK_of_prefix toy false 0 (toy_signed_hyps false) [([49], [65])] [48]
      ⟨by decide, by decide, by decide, by decide, by decide⟩ ds1 [] (by decide +kernel) (by unfold Good; decide +kernel) (by decide +kernel))
    (by intro k h0 hl; simp at hl; omega)).1

-- a negative chunk size, a header split behind a CR, garbage: no panic
example : (ChunkSigned.run (signedCfg toy false 0) [] [([45, 49, 59, 99], false), ([13], false), ([10, 0, 255], true)]).2 ≠ .panic :=
  signed_never_panics _ _ _

example (p : Bytes) (h : Valid toy (variantOf false) s1 p) : p = [65] := valid_functional toy _ s1 p [65] h s1_valid
example (p : Bytes) : ¬ Valid toy (variantOf false) (s1 ++ [13, 10]) p :=
  fun h => absurd (valid_prefix_free toy _ s1 [13, 10] [65] p s1_valid h) (by decide +kernel)
example (p : Bytes) : ¬ Valid toy (variantOf false) (s1.take 30) p :=
  truncation_invalid toy _ s1 [65] s1_valid 30 (by decide +kernel) p
example : admitsB toy (variantOf false) s1 (.ok [65]) = true :=
  (oracle_on_valid toy _ s1 [65] (by decide +kernel) s1_valid _).2 rfl
example : admitsB toy (variantOf false) s1 .rejected = false := by
  have := oracle_on_valid toy _ s1 [65] (by decide +kernel) s1_valid .rejected
  cases h : admitsB toy (variantOf false) s1 .rejected with
  | false => rfl
  | true => exact absurd (this.1 h) (by decide +kernel)
example : (ChunkSigned.read (signedCfg toy false 0) (ChunkSigned.init []) s1 false 64).2.status ≠ .fuel :=
  signed_fuel_suffices _ _ _ _ _
example : (ChunkUnsigned.read (ucfg toy) (ChunkUnsigned.init u3) 2).2.status ≠ .fuel :=
  unsigned_fuel_suffices _ _ _

/-- `1;chunk-signature= CRLF A CRLF 0;chunk-signature=01 CRLF CRLF`: the data chunk carries no signature -/
def s1nosig : Bytes :=
  [49] ++ sigIntro ++ [13, 10] ++ [65] ++ [13, 10] ++ [48] ++ sigIntro ++ [48, 49] ++ [13, 10] ++ [13, 10]

-- (test) the hypotheses of `empty_chunk_signature_refused` are met by a real stream: the run is refused
example : ChunkSigned.run (signedCfg toy false 0) toy.seedSig [(s1nosig, true)] = ([], .err .sigMismatch) := by decide +kernel
example : (match (ChunkSigned.parseChunkHeaderBytes (signedCfg toy false 0) (ChunkSigned.init toy.seedSig) s1nosig).2 with
    | .chunk 1 [] _ => true
    | _ => false) = true := by decide +kernel

end Vgw.Props.C12
