/-
  C16 — Bucket lifecycle and settings are faithful; deletion never loses data (sequential part).
  Theorems over `Model.Gw`. The name predicate is in `Props/C16Name.lean`; the DeleteBucket races
  are in the concurrent model.
-/
import Vgw.Lemmas.GwHandlers
namespace Vgw.Props.C16
open Vgw Vgw.Model.Gw

/-- **Creating a bucket that already exists fails and leaves everything untouched** (owner, ACL,
settings, contents): the state is the same state. -/
theorem create_existing_noop (cfg : Cfg) (s : State) (w : Who) (now : Int) (b : Bytes) (acl : CannedAcl)
    (own : Option Ownership) (lock valid : Bool) (bk : Bucket) (hb : findBucket s b = some bk) :
    (handle cfg s w now (.createBucket b acl own lock valid)).1 = s ∧
    (handle cfg s w now (.createBucket b acl own lock valid)).2.code ≠ "" := by
  refine Refused.ite (.err s _) (.ite (.err s _) (.ite (.err s _) (.ite (.err s _) ?_)))
  rw [hb]
  exact Refused.ite (.err s _) (.err s _)

/-- **DeleteBucket succeeds only on a bucket without objects, versions or uploads in progress.** -/
theorem deleteBucket_only_if_empty (cfg : Cfg) (s : State) (w : Who) (now : Int) (b : Bytes) (bk : Bucket)
    (hb : findBucket s b = some bk) (hok : (handle cfg s w now (.deleteBucket b)).2.code = "") :
    bk.objects = [] ∧ bk.uploads = [] := by
  obtain ⟨bk', hb', _, h⟩ := gated_ok hok
  cases hb.symm.trans hb'
  split at h
  · exact absurd h (errR_code_ne _)
  · rename_i hne
    simpa only [Bool.or_eq_true, Bool.not_eq_true', not_or, Bool.not_eq_false, List.isEmpty_iff] using hne

/-- a gated update that stores `bk'` (of the name `b`) in place of the bucket found: `b` then finds
`bk'`. The settings handlers store `{ bk0 with … }` and are not literally of this form. -/
theorem put_then_find (cfg : Cfg) (s : State) (b : Bytes) (bk bk' : Bucket) (w : Who) (perm : Perm) (act : Bytes)
    (hb : findBucket s b = some bk) (hn : bk'.name = b) (r : Resp)
    (hok : (withBucket s b fun bk0 => guarded (verifyAccess cfg bk0 w perm act []) s fun _ =>
              (setBucket s (if bk0 = bk then bk' else bk0), r)).2.code = "") :
    findBucket (withBucket s b fun bk0 => guarded (verifyAccess cfg bk0 w perm act []) s fun _ =>
              (setBucket s (if bk0 = bk then bk' else bk0), r)).1 b = some bk' := by
  rw [gated_of_ok hok hb, if_pos rfl]
  exact findBucket_setBucket s bk' b hn

/-- **Tags read back exactly as last written.** -/
theorem tagging_roundtrip (cfg : Cfg) (s : State) (w w' : Who) (now : Int) (b : Bytes) (tags : KVs) (bk : Bucket)
    (hb : findBucket s b = some bk)
    (hok : (handle cfg s w now (.putBucketTagging b tags)).2.code = "")
    (hread : ∀ bk', bk'.name = b → bk'.acl = bk.acl → bk'.policy = bk.policy →
      verifyAccess cfg bk' w' .read actGetBucketTagging [] = none) :
    (handle cfg (handle cfg s w now (.putBucketTagging b tags)).1 w' now (.getBucketTagging b)).2 =
      okR [("tags", showKVs tags)] := by
  rw [show handle cfg s w now (.putBucketTagging b tags) = _ from gated_of_ok hok hb]
  exact congrArg Prod.snd (gated_none (findBucket_setBucket_of (bk' := { bk with tags := some tags }) hb rfl)
    (hread _ (findBucket_name (bk := bk) hb) rfl rfl))

/-- … and are gone once deleted. -/
theorem tagging_deleted (cfg : Cfg) (s : State) (w w' : Who) (now : Int) (b : Bytes) (bk : Bucket)
    (hb : findBucket s b = some bk)
    (hok : (handle cfg s w now (.deleteBucketTagging b)).2.code = "")
    (hread : ∀ bk', bk'.name = b → bk'.acl = bk.acl → bk'.policy = bk.policy →
      verifyAccess cfg bk' w' .read actGetBucketTagging [] = none) :
    (handle cfg (handle cfg s w now (.deleteBucketTagging b)).1 w' now (.getBucketTagging b)).2 =
      errR "NoSuchTagSet" := by
  rw [show handle cfg s w now (.deleteBucketTagging b) = _ from gated_of_ok hok hb]
  exact congrArg Prod.snd (gated_none (findBucket_setBucket_of (bk' := { bk with tags := none }) hb rfl)
    (hread _ (findBucket_name (bk := bk) hb) rfl rfl))

/-- **The policy reads back as the document last written** (identified by its document id). -/
theorem policy_roundtrip (cfg : Cfg) (s : State) (w w' : Who) (now : Int) (b : Bytes) (p : Policy) (bk : Bucket)
    (hb : findBucket s b = some bk)
    (hok : (handle cfg s w now (.putBucketPolicy b p true)).2.code = "")
    (hread : ∀ bk', bk'.name = b → bk'.acl = bk.acl → bk'.policy = some p →
      verifyAccess cfg bk' w' .read actGetBucketPolicy [] = none) :
    (handle cfg (handle cfg s w now (.putBucketPolicy b p true)).1 w' now (.getBucketPolicy b)).2 =
      okR [("policy", toString p.docId)] := by
  rw [show handle cfg s w now (.putBucketPolicy b p true) = _ from gated_of_ok hok hb]
  exact congrArg Prod.snd (gated_none (findBucket_setBucket_of (bk' := { bk with policy := some p }) hb rfl)
    (hread { bk with policy := some p } (findBucket_name (bk := bk) hb) rfl rfl))

/-- **A refused policy leaves the previous one in force**: an invalid document never changes the
state. -/
theorem refused_policy_keeps_previous (cfg : Cfg) (s : State) (w : Who) (now : Int) (b : Bytes) (p : Policy) :
    (handle cfg s w now (.putBucketPolicy b p false)).1 = s := by
  exact withBucket_fst fun bk => guarded_fst fun _ => rfl

/-- **Ownership controls read back as last written.** -/
theorem ownership_roundtrip (cfg : Cfg) (s : State) (w w' : Who) (now : Int) (b : Bytes) (o : Ownership) (bk : Bucket)
    (hb : findBucket s b = some bk)
    (hok : (handle cfg s w now (.putOwnership b o)).2.code = "")
    (hread : ∀ bk', bk'.name = b → bk'.acl = bk.acl → bk'.policy = bk.policy →
      verifyAccess cfg bk' w' .read actGetOwnership [] = none) :
    (handle cfg (handle cfg s w now (.putOwnership b o)).1 w' now (.getOwnership b)).2 =
      okR [("ownership", showOwnership o)] := by
  rw [show handle cfg s w now (.putOwnership b o) = _ from gated_of_ok hok hb]
  exact congrArg Prod.snd (gated_none (findBucket_setBucket_of (bk' := { bk with ownership := some o }) hb rfl)
    (hread _ (findBucket_name (bk := bk) hb) rfl rfl))

/-- **A canned ACL reads back as last written** (owner unchanged). -/
theorem acl_roundtrip (cfg : Cfg) (s : State) (w w' : Who) (now : Int) (b : Bytes) (acl : CannedAcl) (bk : Bucket)
    (hb : findBucket s b = some bk)
    (hok : (handle cfg s w now (.putBucketAcl b acl)).2.code = "")
    (hread : ∀ bk', bk'.name = b → bk'.policy = bk.policy →
      verifyAccess cfg bk' w' .readAcp actGetBucketAcl [] = none) :
    (handle cfg (handle cfg s w now (.putBucketAcl b acl)).1 w' now (.getBucketAcl b)).2 =
      okR [("acl", showAcl ⟨bk.acl.owner, cannedGrantees bk.acl.owner acl⟩)] := by
  have hput : handle cfg s w now (.putBucketAcl b acl) =
      (setBucket s { bk with acl := ⟨bk.acl.owner, cannedGrantees bk.acl.owner acl⟩ }, okR) := by
    rw [show handle cfg s w now (.putBucketAcl b acl) = _ from withBucket_some hb] at hok ⊢
    have h1 := ite_err_of_ok hok; rw [h1] at hok ⊢
    have h2 := guarded_of_ok hok; rw [h2] at hok ⊢
    exact ite_err_of_ok hok
  rw [hput]
  generalize (⟨bk.acl.owner, cannedGrantees bk.acl.owner acl⟩ : ACL) = a
  exact congrArg Prod.snd (gated_none (findBucket_setBucket_of (bk' := { bk with acl := a }) hb rfl)
    (hread { bk with acl := a } (findBucket_name (bk := bk) hb) rfl))

/-- **An ACL given by grant headers reads back as last written**: the owner's full control followed by
exactly the granted (account, permission) pairs, in order — none merged, none dropped, whatever the
combination (the same account may hold several permissions). -/
theorem aclGrants_roundtrip (cfg : Cfg) (s : State) (w w' : Who) (now : Int) (b : Bytes) (gs : List (Perm × Bytes)) (bk : Bucket)
    (hb : findBucket s b = some bk)
    (hok : (handle cfg s w now (.putBucketAclGrants b gs)).2.code = "")
    (hread : ∀ bk', bk'.name = b → bk'.policy = bk.policy →
      verifyAccess cfg bk' w' .readAcp actGetBucketAcl [] = none) :
    (handle cfg (handle cfg s w now (.putBucketAclGrants b gs)).1 w' now (.getBucketAcl b)).2 =
      okR [("acl", showAcl ⟨bk.acl.owner, ⟨bk.acl.owner, .fullControl, false⟩ :: gs.map fun (p, a) => ⟨a, p, false⟩⟩)] := by
  have hput : handle cfg s w now (.putBucketAclGrants b gs) =
      (setBucket s { bk with acl := ⟨bk.acl.owner, ⟨bk.acl.owner, .fullControl, false⟩ :: gs.map fun (p, a) => ⟨a, p, false⟩⟩ }, okR) := by
    rw [show handle cfg s w now (.putBucketAclGrants b gs) = _ from withBucket_some hb] at hok ⊢
    have h1 := ite_err_of_ok hok; rw [h1] at hok ⊢
    exact guarded_of_ok hok
  rw [hput]
  generalize (⟨bk.acl.owner, _ :: _⟩ : ACL) = a
  exact congrArg Prod.snd (gated_none (findBucket_setBucket_of (bk' := { bk with acl := a }) hb rfl)
    (hread { bk with acl := a } (findBucket_name (bk := bk) hb) rfl))

/-- **A non-admin's ListBuckets shows only buckets it owns** (and an admin's only existing
buckets): every listed name is a bucket of the state whose owner is the caller, unless the caller
is an admin. -/
theorem listBuckets_owned (w : Who) (pfx token : Bytes) (max : Nat) :
    ∀ (bs : List Bucket) (acc : List Bytes),
      ∀ n ∈ (listBucketsLoop w pfx token max bs acc).1,
        n ∈ acc ∨ ∃ bk ∈ bs, bk.name = n ∧ ((w.role == .admin) = true ∨ bk.acl.owner = w.access ) ∧ pfx.isPrefixOf n = true
  | [], acc, n, h => Or.inl h
  | bk :: rest, acc, n, h => by
    rcases listBucketsLoop_cons w pfx token max bk rest acc with e | ⟨_, e⟩ | ⟨_, hp, ho, e⟩ <;> rw [e] at h
    · exact (listBuckets_owned w pfx token max rest acc n h).imp_right
        fun ⟨b', hb', hp⟩ => ⟨b', List.mem_cons_of_mem _ hb', hp⟩
    · exact Or.inl h
    · rcases listBuckets_owned w pfx token max rest (acc ++ [bk.name]) n h with h1 | ⟨b', hb', hp'⟩
      · rcases List.mem_append.mp h1 with h1 | h1
        · exact Or.inl h1
        · cases List.mem_singleton.mp h1
          exact Or.inr ⟨bk, List.mem_cons_self, rfl, ho, hp⟩
      · exact Or.inr ⟨b', List.mem_cons_of_mem _ hb', hp'⟩

/-- a page never exceeds max-buckets -/
theorem listBuckets_bounded (w : Who) (pfx token : Bytes) (max : Nat) :
    ∀ (bs : List Bucket) (acc : List Bytes), acc.length ≤ max →
      (listBucketsLoop w pfx token max bs acc).1.length ≤ max
  | [], acc, h => h
  | bk :: rest, acc, h => by
    rcases listBucketsLoop_cons w pfx token max bk rest acc with e | ⟨_, e⟩ | ⟨hne, _, _, e⟩ <;> rw [e]
    · exact listBuckets_bounded w pfx token max rest acc h
    · exact h
    · refine listBuckets_bounded w pfx token max rest _ ?_
      rw [List.length_append, List.length_singleton]
      omega

/-! non-vacuity -/
def b1 : Bucket := { name := [97], acl := ⟨[117], []⟩ }
def b2 : Bucket := { name := [98], acl := ⟨[118], []⟩ }
example : (listBucketsLoop ⟨[117], false, .user⟩ [] [] 10 [b1, b2] []).1 = [[97]] := rfl
example : (listBucketsLoop ⟨[120], false, .admin⟩ [] [] 10 [b1, b2] []).1 = [[97], [98]] := rfl

end Vgw.Props.C16
