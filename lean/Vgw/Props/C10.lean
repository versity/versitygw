/-
  C10 — Object Lock protections cannot be circumvented.
  Theorems over the lock part of `Model.Gw`.

  `Protected b w now k v` : version `v` of key `k` is protected against caller `w` at time `now`
  even if `w` sends the bypass header — legal hold, unexpired COMPLIANCE retention, or unexpired
  GOVERNANCE retention while the bucket policy does not give `w` s3:BypassGovernanceRetention.
-/
import Vgw.Lemmas.GwStep
namespace Vgw.Props.C10
open Vgw Vgw.Model.Gw

def Protected (b : Bucket) (w : Who) (now : Int) (k : Bytes) (v : Ver) : Prop :=
  verLocked b w now true k v = true

def lockOn (b : Bucket) : Prop := ∃ c, b.lock = some c ∧ c.enabled = true

/-- a version protected with the bypass header is protected without it as well -/
theorem protected_mono (b : Bucket) (w : Who) (now : Int) (k : Bytes) (v : Ver)
    (h : Protected b w now k v) (bypass : Bool) : verLocked b w now bypass k v = true := by
  cases bypass
  · unfold Protected verLocked at *
    cases hr : v.retention with
    | none => simpa [hr] using h
    | some r =>
      cases hm : r.mode <;> simp [hr, hm] at h ⊢
      · exact h.imp_left And.left
      · exact h
  · exact h

/-- **The lock check refuses whenever its target is protected** — for the current version
(empty id) and for a version addressed by id. -/
theorem lockCheck_refuses (b : Bucket) (hl : lockOn b) (w : Who) (now : Int) (bypass : Bool) (k vid : Bytes)
    (v : Ver)
    (ht : target b k vid = some v)
    (hp : Protected b w now k v) :
    lockCheck b w now bypass k vid = some "InvalidRequest" := by
  obtain ⟨c, hc, hen⟩ := hl
  unfold lockCheck
  unfold target at ht
  simp only [hc, hen, Bool.not_true, Bool.false_eq_true, if_false, ht, protected_mono b w now k v hp bypass,
    Bool.true_or, if_true]

/-- **DELETE of a protected version is refused and changes nothing** (by any caller, with or
without the bypass header, with or without a version id). -/
theorem delete_protected_refused (cfg : Cfg) (s : State) (w : Who) (now : Int) (b k vid : Bytes)
    (bypass : Bool) (nv : Bytes) (bk : Bucket) (hb : findBucket s b = some bk) (hl : lockOn bk) (v : Ver)
    (ht : target bk k vid = some v)
    (hp : Protected bk w now k v) :
    (handle cfg s w now (.deleteObject b k vid bypass nv)).1 = s ∧
    (handle cfg s w now (.deleteObject b k vid bypass nv)).2.code ≠ "" :=
  Refused.second_guard hb (lockCheck_refuses bk hl w now bypass k vid v ht hp)

/-- **Overwriting a protected current version by PUT is refused and changes nothing.** -/
theorem put_onto_protected_refused (cfg : Cfg) (s : State) (w : Who) (now : Int) (b k : Bytes)
    (p : PutSpec) (nv : Bytes) (bk : Bucket) (hb : findBucket s b = some bk) (hl : lockOn bk) (v : Ver)
    (ht : (bk.versions k).head? = some v) (hp : Protected bk w now k v) :
    (handle cfg s w now (.putObject b k p nv)).1 = s ∧
    (handle cfg s w now (.putObject b k p nv)).2.code ≠ "" :=
  Refused.second_guard hb (lockCheck_refuses bk hl w now true k [] v ht hp)

/-- **Copying onto a protected current version is refused and changes nothing.** -/
theorem copy_onto_protected_refused (cfg : Cfg) (s : State) (w : Who) (now : Int) (sb sk svid b k : Bytes)
    (rep : Option PutSpec) (nv : Bytes) (bk : Bucket) (hb : findBucket s b = some bk) (hl : lockOn bk) (v : Ver)
    (ht : (bk.versions k).head? = some v) (hp : Protected bk w now k v) :
    (handle cfg s w now (.copyObject sb sk svid b k rep nv)).1 = s ∧
    (handle cfg s w now (.copyObject sb sk svid b k rep nv)).2.code ≠ "" :=
  Refused.second_guard hb (lockCheck_refuses bk hl w now true k [] v ht hp)

/-- **Completing a multipart upload onto a protected current version is refused and changes nothing**
(the upload itself stays in progress). -/
theorem complete_onto_protected_refused (cfg : Cfg) (s : State) (w : Who) (now : Int) (b k id : Bytes)
    (parts : List (Nat × Bytes)) (mpEtag nv : Bytes) (bk : Bucket) (hb : findBucket s b = some bk) (hl : lockOn bk) (v : Ver)
    (ht : (bk.versions k).head? = some v) (hp : Protected bk w now k v) :
    (handle cfg s w now (.completeUpload b k id parts mpEtag nv)).1 = s ∧
    (handle cfg s w now (.completeUpload b k id parts mpEtag nv)).2.code ≠ "" :=
  Refused.second_guard hb (lockCheck_refuses bk hl w now true k [] v ht hp)

/-- **A batch delete that names a protected version is refused as a whole.** -/
theorem batch_with_protected_refused (cfg : Cfg) (s : State) (w : Who) (now : Int) (b : Bytes)
    (keys : List (Bytes × Bytes)) (bypass : Bool) (nvs : List Bytes) (bk : Bucket)
    (hb : findBucket s b = some bk) (hl : lockOn bk) (k vid : Bytes) (hk : (k, vid) ∈ keys) (v : Ver)
    (ht : target bk k vid = some v)
    (hp : Protected bk w now k v) :
    (handle cfg s w now (.deleteObjects b keys bypass nvs)).1 = s ∧
    (handle cfg s w now (.deleteObjects b keys bypass nvs)).2.code ≠ "" := by
  obtain ⟨e, he⟩ : ∃ e, (keys.findSome? fun (kv : Bytes × Bytes) => lockCheck bk w now bypass kv.1 kv.2) = some e :=
    Option.isSome_iff_exists.mp (List.findSome?_isSome_iff.mpr
      ⟨(k, vid), hk, by rw [lockCheck_refuses bk hl w now bypass k vid v ht hp]; rfl⟩)
  exact Refused.second_guard hb he

/-- **A COMPLIANCE retention can never be removed, shortened or downgraded; a GOVERNANCE
retention only by a caller that holds the bypass permission and sends the header**: whenever
PutObjectRetention succeeds on a version that already has a retention, that retention was
GOVERNANCE and the caller's bypass was effective. -/
theorem retention_change_rule (cfg : Cfg) (s : State) (w : Who) (now : Int) (b k vid : Bytes) (r : Retention)
    (bypass : Bool) (bk : Bucket) (hb : findBucket s b = some bk) (v : Ver) (old : Retention)
    (ht : target bk k vid = some v)
    (hold : v.retention = some old)
    (hok : (handle cfg s w now (.putRetention b k vid r bypass)).2.code = "") :
    old.mode = .governance ∧ bypass = true ∧ bypassGranted bk w k = true := by
  rw [show handle cfg s w now (.putRetention b k vid r bypass) = _ from gated_of_ok hok hb] at hok
  have h2 := ite_err_of_ok hok
  rw [h2] at hok
  obtain ⟨v', rest, pre, ht', heq⟩ := withLockedVersion_ok hok
  rw [heq] at hok
  cases (Option.some.inj (ht.symm.trans ht'))
  rw [hold] at hok
  dsimp only at hok
  by_cases hcond : (old.mode == .compliance || !(bypass && bypassGranted bk w k)) = true
  · rw [if_pos hcond] at hok; exact absurd hok (errR_code_ne _)
  · simp only [Bool.or_eq_true, Bool.not_eq_true', not_or, Bool.not_eq_false, Bool.and_eq_true] at hcond
    refine ⟨?_, hcond.2⟩
    cases hm : old.mode
    · rfl
    · rw [hm] at hcond; exact absurd rfl hcond.1

/-- **Object lock cannot be switched off**: whatever PutObjectLockConfiguration does, a bucket
whose lock is enabled stays enabled. -/
theorem lock_stays_on (cfg : Cfg) (s : State) (w : Who) (now : Int) (b : Bytes) (en : Bool)
    (m : Option LockMode) (d : Nat) (bk : Bucket) (hb : findBucket s b = some bk) (hl : lockOn bk) :
    ∃ bk', findBucket (handle cfg s w now (.putLockConfig b en m d)).1 b = some bk' ∧ lockOn bk' := by
  obtain ⟨c, hc, hen⟩ := hl
  rw [show handle cfg s w now (.putLockConfig b en m d) = _ from withBucket_some hb]
  unfold guarded
  split
  · exact ⟨bk, hb, c, hc, hen⟩
  · split
    · exact ⟨bk, hb, c, hc, hen⟩
    · simp only [hc, hen, Bool.not_true, Bool.false_eq_true, if_false]
      exact ⟨_, findBucket_setBucket_of hb rfl, _, rfl, rfl⟩

/-- **Versioning of a lock bucket cannot be suspended.** -/
theorem suspend_refused (cfg : Cfg) (s : State) (w : Who) (now : Int) (b : Bytes) (bk : Bucket)
    (hb : findBucket s b = some bk) (hl : lockOn bk) :
    (handle cfg s w now (.putVersioning b false)).1 = s := by
  obtain ⟨c, hc, hen⟩ := hl
  rw [show handle cfg s w now (.putVersioning b false) = _ from withBucket_some hb]
  refine guarded_fst fun _ => ite_fst rfl ?_
  rw [if_pos (by simp [hc, hen])]

/-- **A bucket that still holds anything cannot be deleted.** -/
theorem deleteBucket_needs_empty (cfg : Cfg) (s : State) (w : Who) (now : Int) (b : Bytes) (bk : Bucket)
    (hb : findBucket s b = some bk) (hne : bk.objects ≠ []) :
    (handle cfg s w now (.deleteBucket b)).1 = s := by
  rw [show handle cfg s w now (.deleteBucket b) = _ from withBucket_some hb]
  refine guarded_fst fun _ => ?_
  cases h : bk.objects with
  | nil => exact absurd h hne
  | cons _ _ => rfl

/-! non-vacuity: a version under legal hold, a COMPLIANCE version, and the refusal computed -/
def held : Ver := { vid := [49], data := [⟨1, 0, 3⟩], hold := true, holdSet := true }
def bkt : Bucket := { name := [98], acl := ⟨[114], []⟩, lock := some { enabled := true }, objects := [([107], [held])] }
def st : State := { buckets := [bkt] }
def rootW : Who := ⟨[114], true, .admin⟩
example : Protected bkt rootW 0 [107] held := by unfold Protected; decide
example : lockOn bkt := ⟨{ enabled := true }, rfl, rfl⟩
example : (handle {} st rootW 0 (.deleteObject [98] [107] [] true [])).2.code = "InvalidRequest" := rfl

end Vgw.Props.C10
