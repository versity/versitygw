/-
  C08 — Multipart uploads assemble exactly the chosen parts and stay isolated.
  Theorems over the multipart part of `Model.Gw`.
-/
import Vgw.Lemmas.GwHandlers
namespace Vgw.Props.C08
open Vgw Vgw.Model.Gw

/-- a successful validation returns one stored part per listed entry, in the listed order, with
that number and that ETag -/
theorem validateParts_spec (stored : List Part) :
    ∀ (listed : List (Nat × Bytes)) (prev : Nat) (chosen : List Part),
      validateParts stored listed prev = .ok chosen →
      chosen.map (fun p => (p.num, p.etag)) = listed ∧ (∀ p ∈ chosen, p ∈ stored)
  | [], _, chosen, h => by cases h; exact ⟨rfl, fun _ hp => nomatch hp⟩
  | (num, etag) :: rest, prev, chosen, h => by
    obtain ⟨p, ps, rfl, _, _, hp, _, he, hps⟩ := validateParts_cons_ok h
    have ih := validateParts_spec stored rest num ps hps
    obtain ⟨hmem, hnum⟩ := find?_key_some (key := Part.num) hp
    refine ⟨by rw [List.map_cons, ih.1, hnum, he], fun q hq => ?_⟩
    rcases List.mem_cons.mp hq with rfl | hq
    · exact hmem
    · exact ih.2 q hq

/-- listed part numbers are ≥ 1 and strictly ascending, otherwise completion is refused -/
theorem validateParts_ascending (stored : List Part) :
    ∀ (listed : List (Nat × Bytes)) (prev : Nat) (chosen : List Part),
      validateParts stored listed prev = .ok chosen →
      (listed.map (·.1)).Pairwise (· < ·) ∧ ∀ n ∈ listed.map (·.1), prev < n ∧ 1 ≤ n
  | [], _, _, _ => by simp
  | (num, etag) :: rest, prev, chosen, h => by
    obtain ⟨p, ps, rfl, h1, h2, _, _, _, hps⟩ := validateParts_cons_ok h
    have ih := validateParts_ascending stored rest num ps hps
    simp only [List.map_cons, List.pairwise_cons, List.mem_cons, forall_eq_or_imp]
    exact ⟨⟨fun n hn => (ih.2 n hn).1, ih.1⟩, ⟨h2, h1⟩, fun n hn => by have := ih.2 n hn; omega⟩

/-- every part but the last is at least the minimum part size -/
theorem validateParts_sizes (stored : List Part) :
    ∀ (listed : List (Nat × Bytes)) (prev : Nat) (chosen : List Part),
      validateParts stored listed prev = .ok chosen →
      ∀ p ∈ chosen.dropLast, minPartSize ≤ p.data.size
  | [], _, chosen, h => by cases h; exact fun _ hp => nomatch hp
  | (num, etag) :: rest, prev, chosen, h => by
    obtain ⟨p, ps, rfl, _, _, _, hsz, _, hps⟩ := validateParts_cons_ok h
    have ih := validateParts_sizes stored rest num ps hps
    intro q hq
    cases ps with
    | nil => cases hq
    | cons r rs =>
      rcases List.mem_cons.mp hq with rfl | hq
      · rcases hsz with rfl | hsz
        · cases hps
        · exact hsz
      · exact ih q hq

/-- re-uploading a part number replaces the earlier upload of that number and nothing else -/
theorem insertPart_find (ps : List Part) (p : Part) : (insertPart ps p).find? (·.num == p.num) = some p :=
  (find?_sortedInsert (·.num) p (p.num < ·.num) (insertPart · p) rfl (fun _ _ => rfl) ps).1

theorem insertPart_find_ne (ps : List Part) (p : Part) (n : Nat) (h : p.num ≠ n) :
    (insertPart ps p).find? (·.num == n) = ps.find? (·.num == n) :=
  (find?_sortedInsert (·.num) p (p.num < ·.num) (insertPart · p) rfl (fun _ _ => rfl) ps).2 n (beq_false_of_ne h)

/-- **Completion assembles exactly the chosen parts**: on success the new current version's data
is the concatenation (in canonical segment form), in listed order, of the stored parts with the
listed numbers and ETags; it carries the multipart ETag handed in by the environment and the
metadata given at initiation; and the upload is gone. -/
theorem complete_concat (cfg : Cfg) (s : State) (w : Who) (now : Int) (b k id : Bytes)
    (parts : List (Nat × Bytes)) (mpEtag nv : Bytes) (bk : Bucket) (up : Upload)
    (hb : findBucket s b = some bk)
    (hup : bk.uploads.find? (fun u => u.key == k && u.id == id) = some up)
    (hok : (handle cfg s w now (.completeUpload b k id parts mpEtag nv)).2.code = "") :
    ∃ chosen bk',
      validateParts up.parts parts 0 = .ok chosen ∧
      findBucket (handle cfg s w now (.completeUpload b k id parts mpEtag nv)).1 b = some bk' ∧
      (bk'.versions k).head?.map (fun v => (v.data, v.etag, v.umeta, v.ctype, v.hdrs, v.tags)) =
        some (Data.norm (chosen.flatMap fun p => p.data), mpEtag, up.umeta, up.ctype, up.hdrs, up.tags) ∧
      bk'.uploads.find? (fun u => u.key == k && u.id == id) = none := by
  have h1 : handle cfg s w now (.completeUpload b k id parts mpEtag nv) = _ := gated_of_ok hok hb
  rw [h1] at hok ⊢
  have h2 := guarded_of_ok hok
  rw [h2] at hok ⊢
  rw [hup] at hok ⊢
  dsimp only at hok ⊢
  cases hv : validateParts up.parts parts 0 with
  | error e => rw [hv] at hok; exact absurd hok (errR_code_ne _)
  | ok chosen =>
    dsimp only
    obtain ⟨v, rest, hcv⟩ := completeVersions_cons cfg bk (bk.versions k) (assembled up chosen mpEtag) nv
    rw [hcv]
    refine ⟨chosen, _, rfl, findBucket_setBucket_of hb (setVersions_name bk k _), ?_, ?_⟩
    · show ((bk.setVersions k (mkVer (assembled up chosen mpEtag) v :: rest)).versions k).head?.map _ = _
      rw [versions_setVersions bk k _ (List.cons_ne_nil _ _)]
      rfl
    · exact find?_filter_not _ _

/-- **Uploads do not affect one another**: uploading a part to one upload leaves every other
upload of the bucket (other id, or other key) exactly as it was. -/
theorem uploadPart_isolated (cfg : Cfg) (s : State) (w : Who) (now : Int) (b k id : Bytes) (num : Nat)
    (data : Data) (etag : Bytes) (bk : Bucket) (hb : findBucket s b = some bk)
    (hok : (handle cfg s w now (.uploadPart b k id num data etag)).2.code = "") :
    ∃ bk', findBucket (handle cfg s w now (.uploadPart b k id num data etag)).1 b = some bk' ∧
      bk'.objects = bk.objects ∧
      ∀ u ∈ bk.uploads, ¬ (u.key == k && u.id == id) = true → u ∈ bk'.uploads := by
  have h1 : handle cfg s w now (.uploadPart b k id num data etag) = _ := gated_of_ok hok hb
  rw [h1] at hok ⊢
  cases hup : bk.uploads.find? (fun u => u.key == k && u.id == id) with
  | none => rw [hup] at hok; exact absurd hok (errR_code_ne _)
  | some up =>
    exact ⟨_, findBucket_setBucket_of hb rfl, rfl, fun u hu hne => List.mem_map.mpr ⟨u, hu, if_neg hne⟩⟩

/-- **A part is accepted only for an upload that exists**: an id that names no upload in progress of
that key — in particular the EMPTY id, whatever uploads the key has (every id issued is non-empty) — is
answered NoSuchUpload and nothing changes (the defect repaired by 0eb26d4 stored such a part). -/
theorem uploadPart_unknown_id_refused (cfg : Cfg) (s : State) (w : Who) (now : Int) (b k id : Bytes) (num : Nat)
    (data : Data) (etag : Bytes) (bk : Bucket) (hb : findBucket s b = some bk)
    (hacc : verifyAccess cfg bk w .write actPutObject k = none)
    (hno : ∀ u ∈ bk.uploads, ¬ (u.key == k && u.id == id) = true) :
    handle cfg s w now (.uploadPart b k id num data etag) = (s, errR "NoSuchUpload") := by
  have hf : bk.uploads.find? (fun u => u.key == k && u.id == id) = none :=
    List.find?_eq_none.mpr (fun u hu => by simpa using hno u hu)
  exact (gated_none hb hacc).trans (by rw [hf])

/-- parts and uploads in progress are not objects: the operations on uploads never change the
bucket's object map (only completion does) -/
theorem createUpload_no_object (cfg : Cfg) (s : State) (w : Who) (now : Int) (b k : Bytes) (p : PutSpec) (nid : Bytes)
    (bk : Bucket) (hb : findBucket s b = some bk)
    (hok : (handle cfg s w now (.createUpload b k p nid)).2.code = "") :
    ∃ bk', findBucket (handle cfg s w now (.createUpload b k p nid)).1 b = some bk' ∧ bk'.objects = bk.objects := by
  have h1 : handle cfg s w now (.createUpload b k p nid) = _ := gated_of_ok hok hb
  rw [h1] at hok ⊢
  rw [guarded_of_ok hok]
  exact ⟨_, findBucket_setBucket_of hb rfl, rfl⟩

/-- a refused CreateMultipartUpload changes nothing: in particular the other uploads in progress for the
same key, their parts and metadata stay exactly as they were -/
theorem createUpload_refused_no_effect (cfg : Cfg) (s : State) (w : Who) (now : Int) (b k : Bytes) (p : PutSpec) (nid : Bytes)
    (hrf : (handle cfg s w now (.createUpload b k p nid)).2.code ≠ "") :
    (handle cfg s w now (.createUpload b k p nid)).1 = s := by
  cases hb : findBucket s b with
  | none => exact congrArg Prod.fst (withBucket_none hb)
  | some bk =>
    rw [show handle cfg s w now (.createUpload b k p nid) = _ from withBucket_some hb] at hrf ⊢
    refine guarded_fst fun h1 => guarded_fst fun h2 => ?_
    rw [h1, h2] at hrf
    exact absurd rfl hrf

/-- after an abort the upload id is gone -/
theorem abort_removes (cfg : Cfg) (s : State) (w : Who) (now : Int) (b k id : Bytes)
    (bk : Bucket) (hb : findBucket s b = some bk)
    (hok : (handle cfg s w now (.abortUpload b k id)).2.code = "") :
    ∃ bk', findBucket (handle cfg s w now (.abortUpload b k id)).1 b = some bk' ∧
      bk'.uploads.find? (fun u => u.key == k && u.id == id) = none ∧ bk'.objects = bk.objects := by
  have h1 : handle cfg s w now (.abortUpload b k id) = _ := gated_of_ok hok hb
  rw [h1] at hok ⊢
  cases hup : bk.uploads.find? (fun u => u.key == k && u.id == id) with
  | none => rw [hup] at hok; exact absurd hok (errR_code_ne _)
  | some up =>
    exact ⟨_, findBucket_setBucket_of hb rfl, find?_filter_not _ _, rfl⟩

/-! non-vacuity: two 1-byte parts cannot be completed (first part too small); a single part can -/
def ps : List Part := [⟨1, [⟨1, 0, 1⟩], [97]⟩, ⟨2, [⟨2, 0, 1⟩], [98]⟩]
example : validateParts ps [(1, [97]), (2, [98])] 0 = .error "EntityTooSmall" := by rfl
example : validateParts ps [(2, [98])] 0 = .ok [⟨2, [⟨2, 0, 1⟩], [98]⟩] := by rfl
example : validateParts ps [(2, [98]), (1, [97])] 0 = .error "EntityTooSmall" := by rfl
example : validateParts ps [(1, [99])] 0 = .error "InvalidPart" := by rfl

end Vgw.Props.C08
