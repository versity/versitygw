import Vgw.Lemmas.CrashEffect
/-
  Property C11 — a gateway crash never leaves a half-written or vanished object.

  The theorems are about Model.Crash: the step lists of PutObject, CopyObject, CompleteMultipartUpload,
  UploadPart and DeleteObject (both temp-file strategies, both metadata stores, every versioning status),
  a kill between any two steps, and the view the API shows after the restart.  They hold for EVERY file
  system, every request and every crash point — not for sampled ones.  What concerns other keys holds for every
  configuration; atomicity for the request's own key holds for the decidable classes `SafeB` / `SafeFixedB`
  (xattr store); the full statements the backend violates are negated in Open/C11.lean and replayed by the harness.
-/
namespace Vgw.Props.C11
open Vgw.Model.Crash

/-- FULL STATEMENT (clause 1 of C11). For every configuration, request, file system and crash point the view of the
    request's key after the restart is the complete previous one or the complete new one. -/
def crash_atomic_full : Prop :=
  ∀ (cfg : Cfg) (rq : Req) (fs : FS) (n : Nat), KeyOK rq.key →
    view cfg (crashAt n (plan cfg rq fs) fs) rq.key = view cfg fs rq.key ∨
    view cfg (crashAt n (plan cfg rq fs) fs) rq.key = view cfg (run (plan cfg rq fs) fs) rq.key

def keyOKB (key : Path) : Bool := !key.isEmpty && key.head? != some ".sgwtmp"

theorem keyOK_of_B {key : Path} (h : keyOKB key = true) : KeyOK key := by
  simp only [keyOKB, Bool.and_eq_true, Bool.not_eq_eq_eq_not, Bool.not_true, List.isEmpty_eq_false_iff, ne_eq,
    bne_iff_ne] at h
  exact h

/-- The class for which the unchanged backend is crash-atomic (decidable). Excluded, and shown to fail in
    Open/C11.lean: overwriting an existing key (remove, then link), attributes written by name after the
    publication (tags before the repairs; the legal hold — `rq.hold` — still), the sidecar metadata store, DeleteObject in a versioned
    bucket (archive copy, then two attribute writes on the live file). -/
def SafeB (cfg : Cfg) (rq : Req) (fs : FS) : Bool :=
  !cfg.sidecar && keyOKB rq.key &&
  match rq.op with
  | .put => (fs.get (objPath cfg rq.key)).isNone && (!rq.tags || cfg.tagsFirst) && (!rq.hold || cfg.holdFirst)
  | .copy => (fs.get (objPath cfg rq.key)).isNone &&
             ((readAttr cfg fs (objPath cfg rq.src) "X-Amz-Tagging").isNone || cfg.copyTagsFirst) && (!rq.hold || cfg.holdFirst)
  | .delete => !(cfg.verDir && cfg.vstatus != .off)
  | .uploadPart => true
  | .complete => (fs.get (objPath cfg rq.key)).isNone

/-- at most one step of a safe request's plan writes anything its key's view reads -/
theorem safe_one_commit (cfg : Cfg) (rq : Req) (fs : FS) (h : SafeB cfg rq fs = true) :
    (plan cfg rq fs).countP (fun s => !s.silent (reads cfg rq.key)) ≤ 1 := by
  simp only [SafeB, Bool.and_eq_true, Bool.not_eq_eq_eq_not, Bool.not_true] at h
  exact one_commit cfg h.1.1 rq (keyOK_of_B h.1.2) fs
    (OneCommit.of_B (pub := (fs.get (objPath cfg rq.key)).isNone) cfg rq (fun h => Or.inl (Option.isNone_iff_eq_none.mp h)) h.2)

/-- C11, clause 1, for the safe class: killed at ANY step, the key shows its complete previous state or the
    complete new state (data, ETag, content type, user metadata, version id, tags: all from the same side). -/
theorem crash_atomic_partial (cfg : Cfg) (rq : Req) (fs : FS) (n : Nat) (h : SafeB cfg rq fs = true) :
    view cfg (crashAt n (plan cfg rq fs) fs) rq.key = view cfg fs rq.key ∨
    view cfg (crashAt n (plan cfg rq fs) fs) rq.key = view cfg (run (plan cfg rq fs) fs) rq.key :=
  (view_reads cfg rq.key).crashAt_atomic _ fs (safe_one_commit cfg rq fs h) n

/-- … and so does its ListObjects entry. -/
theorem listing_atomic_partial (cfg : Cfg) (rq : Req) (fs : FS) (n : Nat) (h : SafeB cfg rq fs = true) :
    listed cfg (crashAt n (plan cfg rq fs) fs) rq.key = listed cfg fs rq.key ∨
    listed cfg (crashAt n (plan cfg rq fs) fs) rq.key = listed cfg (run (plan cfg rq fs) fs) rq.key :=
  (listed_reads cfg rq.key).crashAt_atomic _ fs (safe_one_commit cfg rq fs h) n

/-- The class that is crash-atomic once docs/C11-fix-1.diff is applied (`cfg.atomicReplace`): overwrites included.
    With docs/C11-fix-2.diff (`cfg.tagsFirst`) tagged PutObject requests are included as well, with
    docs/C05-fix-4.diff (`cfg.copyTagsFirst`) CopyObject from a tagged source too. With all three switches on — the
    backend as committed — the class is: xattr store, every PutObject / CopyObject / UploadPart /
    CompleteMultipartUpload (tags and legal hold requested at CreateMultipartUpload included: they are written onto
    the temp file), DeleteObject in an unversioned bucket — EXCEPT PutObject / CopyObject with
    `x-amz-object-lock-legal-hold` (`rq.hold`): PutObjectLegalHold still runs by name after the publication
    (Open.C11.hold_after_publication) unless docs/C11-fix-3.diff is applied (`cfg.holdFirst`). -/
def SafeFixedB (cfg : Cfg) (rq : Req) (fs : FS) : Bool :=
  cfg.atomicReplace && !cfg.sidecar && keyOKB rq.key &&
  match rq.op with
  | .put => (!rq.tags || cfg.tagsFirst) && (!rq.hold || cfg.holdFirst)
  | .copy => ((readAttr cfg fs (objPath cfg rq.src) "X-Amz-Tagging").isNone || cfg.copyTagsFirst) && (!rq.hold || cfg.holdFirst)
  | .delete => !(cfg.verDir && cfg.vstatus != .off)
  | .uploadPart => true
  | .complete => true

theorem fixed_one_commit (cfg : Cfg) (rq : Req) (fs : FS) (h : SafeFixedB cfg rq fs = true) :
    (plan cfg rq fs).countP (fun s => !s.silent (reads cfg rq.key)) ≤ 1 := by
  simp only [SafeFixedB, Bool.and_eq_true, Bool.not_eq_eq_eq_not, Bool.not_true] at h
  exact one_commit cfg h.1.1.2 rq (keyOK_of_B h.1.2) fs (OneCommit.of_B (pub := true) cfg rq (fun _ => Or.inr h.1.1.1) h.2)

/-- What the repair buys: with `tmpfile.link` replacing by rename (docs/C11-fix-1.diff) every PutObject,
    CopyObject and CompleteMultipartUpload — onto a new OR an existing key — is crash-atomic in the xattr store. -/
theorem crash_atomic_fixed (cfg : Cfg) (rq : Req) (fs : FS) (n : Nat) (h : SafeFixedB cfg rq fs = true) :
    view cfg (crashAt n (plan cfg rq fs) fs) rq.key = view cfg fs rq.key ∨
    view cfg (crashAt n (plan cfg rq fs) fs) rq.key = view cfg (run (plan cfg rq fs) fs) rq.key :=
  (view_reads cfg rq.key).crashAt_atomic _ fs (fixed_one_commit cfg rq fs h) n

/-- Where a request can write at all (every configuration): temp areas, the versioning area, the key's own entry
    and its ancestors, the key's sidecar entries and their ancestors. -/
theorem plan_writes_owned (cfg : Cfg) (rq : Req) (fs : FS) : WritesOwned cfg rq.key (plan cfg rq fs) :=
  owned_plan cfg rq fs

/-- C11 "every other key": for EVERY configuration (both stores, both strategies, versioned or not), request and
    crash point, a key unrelated to the request's key reads and lists exactly as before. -/
theorem others_untouched (cfg : Cfg) (rq : Req) (fs : FS) (n : Nat) (k' : Path) (hu : Unrelated rq.key k') :
    view cfg (crashAt n (plan cfg rq fs) fs) k' = view cfg fs k' ∧
    listed cfg (crashAt n (plan cfg rq fs) fs) k' = listed cfg fs k' := by
  have hs := silent_of_owned (plan_writes_owned cfg rq fs) hu
  exact ⟨(view_reads cfg k').crashAt_silent _ fs hs n, (listed_reads cfg k').crashAt_silent _ fs hs n⟩

/-- C11 "every operation acknowledged before the crash is still in effect": (1) a kill loses nothing the API
    reads; (2) whatever an acknowledged request `rq₁` left for its key survives a later request on an unrelated key
    that is killed at any step. (For a later request on the SAME key, `crash_atomic_partial` gives: the acknowledged
    state or the complete new one.) -/
theorem acked_persists (cfg : Cfg) (fs : FS) (rq₁ rq₂ : Req) (n : Nat) (hu : Unrelated rq₂.key rq₁.key) :
    view cfg (crash (run (plan cfg rq₁ fs) fs)) rq₁.key = view cfg (run (plan cfg rq₁ fs) fs) rq₁.key ∧
    view cfg (crashAt n (plan cfg rq₂ (run (plan cfg rq₁ fs) fs)) (run (plan cfg rq₁ fs) fs)) rq₁.key
      = view cfg (run (plan cfg rq₁ fs) fs) rq₁.key :=
  ⟨(view_reads cfg _).crash _, (others_untouched cfg rq₂ _ n rq₁.key hu).1⟩

/-- C11 "leftover temporary data is never visible through the API": no name below `.sgwtmp` is ever listed, in any
    state; and no crash of any request makes a key unrelated to the request's key appear or disappear. -/
theorem leftovers_invisible (cfg : Cfg) (rq : Req) (fs : FS) (n : Nat) :
    (∀ (fs' : FS) (k : Path), k.head? = some ".sgwtmp" → listed cfg fs' k = none) ∧
    (∀ k', Unrelated rq.key k' → listed cfg (crashAt n (plan cfg rq fs) fs) k' = listed cfg fs k') := by
  refine ⟨fun fs' k hk => ?_, fun k' hu => (others_untouched cfg rq fs n k' hu).2⟩
  unfold listed
  simp [hk]

/-- C11 "leftovers never prevent later operations on that key" (model part; the retry itself is exercised on the real
    gateway at every crash point): after a kill at any step of a safe request EITHER the request had already taken
    full effect OR the crashed state is again in the safe class — whatever the kill left behind (temp files, parent
    directories, archive copies), re-issuing the request is again crash-atomic (`crash_atomic_partial` applies to it). -/
theorem leftovers_harmless (cfg : Cfg) (rq : Req) (fs : FS) (n : Nat) (h : SafeB cfg rq fs = true)
    (hsrc : rq.op = .copy → Unrelated rq.key rq.src) :
    view cfg (crashAt n (plan cfg rq fs) fs) rq.key = view cfg (run (plan cfg rq fs) fs) rq.key ∨
    SafeB cfg rq (crashAt n (plan cfg rq fs) fs) = true := by
  rcases crashAt_restrict_old_or_new (reads cfg rq.key) (plan cfg rq fs) fs (safe_one_commit cfg rq fs h) n with h1 | h1
  · right
    have hget : (crashAt n (plan cfg rq fs) fs).get (objPath cfg rq.key) = fs.get (objPath cfg rq.key) :=
      (get_reads cfg rq.key).congr h1
    have hsrcAttr : rq.op = .copy →
        readAttr cfg (crashAt n (plan cfg rq fs) fs) (objPath cfg rq.src) "X-Amz-Tagging"
          = readAttr cfg fs (objPath cfg rq.src) "X-Amz-Tagging" :=
      fun hc => (readAttr_reads cfg rq.src _).crashAt_silent _ fs (silent_of_owned (plan_writes_owned cfg rq fs) (hsrc hc)) n
    unfold SafeB at h ⊢
    rw [hget]
    cases hop : rq.op <;> rw [hop] at h <;> simp only [] at h ⊢
    · exact h
    · rw [hsrcAttr hop]; exact h
    · exact h
    · exact h
    · exact h
  · exact Or.inl ((view_reads cfg rq.key).congr h1)

/-- What "the complete new state" is, and C11's "leftovers never prevent later operations on that key" for PutObject
    (xattr store): from ANY state in which the bucket exists and the key's name is not a directory — whatever earlier
    crashes left behind in `.sgwtmp`, in the versioning directory, as parent directories or as a half-replaced
    object — a completed PutObject leaves the key reading the request's body with the request's ETag (and tags, when
    supplied; and the legal hold, when asked for): the (re-)issued request takes full effect. Holds for both
    publication routines the model knows — rename-over as committed, and the earlier remove-then-link — in a
    bucket without versioning directory. (`tmp` is the name os.CreateTemp / the replace link picks: fresh.) -/
theorem put_effect (cfg : Cfg) (hs : cfg.sidecar = false) (hv : cfg.verDir = false)
    (rq : Req) (hk : KeyOK rq.key) (fs : FS)
    (hb : fs.isDir (bucketPath cfg) = true) (hnd : fs.isDir (objPath cfg rq.key) = false)
    (hfresh : fs.get (tmpDir cfg ++ [rq.tmp]) = none) :
    ∃ v, view cfg (run (planPut cfg rq fs) fs) rq.key = some v ∧ v.data = rq.data ∧ v.etag = some "new" ∧
      (rq.tags = true → v.tags = some "new") ∧ (rq.hold = true → v.hold = some "new") := by
  refine ⟨_, view_xattr hs (get_planPut cfg hs rq hk fs hb hnd hfresh) (Or.inl hv), rfl, ?_, fun ht => ?_, fun hh => ?_⟩
  · simp only [aget_foldAttrs_nil, lastVal_putAttrs_etag]; rfl
  · simp only [aget_foldAttrs_nil, lastVal_putAttrs_tags cfg rq ht]
  · simp only [aget_foldAttrs_nil, lastVal_putAttrs_hold cfg rq hh]; rfl

/-! ### further full statements the unchanged backend violates (negations in Open/C11.lean; no `_partial` is
    proved for them: where they hold is established by the crash enumeration on the real code only) -/

/-- FULL STATEMENT: the key's ListObjectVersions entries after a crash are the previous ones or the new ones. -/
def versions_atomic_full : Prop :=
  ∀ (cfg : Cfg) (rq : Req) (fs : FS) (n : Nat), KeyOK rq.key →
    versions cfg (crashAt n (plan cfg rq fs) fs) rq.key = versions cfg fs rq.key ∨
    versions cfg (crashAt n (plan cfg rq fs) fs) rq.key = versions cfg (run (plan cfg rq fs) fs) rq.key

/-- FULL STATEMENT: an upload that the completed request consumes is not listed next to the object it produced. -/
def upload_consumed_full : Prop :=
  ∀ (cfg : Cfg) (rq : Req) (fs : FS) (n : Nat), KeyOK rq.key → rq.op = .complete →
    uploads cfg (run (plan cfg rq fs) fs) rq.key = [] →
    view cfg (crashAt n (plan cfg rq fs) fs) rq.key = view cfg (run (plan cfg rq fs) fs) rq.key →
    view cfg fs rq.key ≠ view cfg (run (plan cfg rq fs) fs) rq.key →
    uploads cfg (crashAt n (plan cfg rq fs) fs) rq.key = []

/-- FULL STATEMENT: leftovers block nothing — if the bucket could be emptied and deleted before the request and after
    the completed request, it can be after a crash. -/
def not_blocked_full : Prop :=
  ∀ (cfg : Cfg) (rq : Req) (fs : FS) (n : Nat), KeyOK rq.key →
    blocked cfg fs = false → blocked cfg (run (plan cfg rq fs) fs) = false →
    blocked cfg (crashAt n (plan cfg rq fs) fs) = false

/-! ### non-vacuity -/

def fs0 : FS := { ents := [(["R", "b"], .dir [("acl", "x")]), (["R", "b", ".sgwtmp"], .dir []),
                           (["R", "b", "zz"], .file "other" [("etag", "e0")])] }
def putK : Req := { op := .put, key := ["k"], metaKeys := ["a"], ctype := true }

-- a safe request with a non-trivial plan (8 steps), whose completed run shows the new object
example : SafeB {} putK fs0 = true := by decide +kernel
example : (plan {} putK fs0).length = 8 := by decide +kernel
example : (view {} (run (plan {} putK fs0) fs0) ["k"]).map (·.data) = some "new" := by decide +kernel
example : view {} fs0 ["k"] = none := by decide +kernel
-- unrelated keys exist
example : Unrelated ["k"] ["zz"] := by
  refine ⟨?_, ?_, by decide⟩ <;> (intro h; exact absurd (List.cons_prefix_cons.mp h).1 (by decide))
-- a safe delete
example : SafeB {} { op := .delete, key := ["zz"] } fs0 = true := by decide +kernel
-- put_effect: a state full of leftovers (a stale named temp file, a stray parent directory, an existing object)
-- meets its hypotheses
def fsLeft : FS := { ents := [(["R", "b"], .dir []), (["R", "b", ".sgwtmp"], .dir []),
                              (["R", "b", ".sgwtmp", "TMPold"], .file "junk" [("etag", "junk")]), (["R", "b", "d"], .dir []),
                              (["R", "b", "d", "k"], .file "old" [("etag", "old")])] }
example : fsLeft.isDir (bucketPath {}) = true ∧ fsLeft.isDir (objPath {} ["d", "k"]) = false ∧
    fsLeft.get (tmpDir {} ++ ["TMP"]) = none ∧ KeyOK ["d", "k"] := by
  refine ⟨by decide +kernel, by decide +kernel, by decide +kernel, by decide, by decide⟩
-- the repaired variant: an overwrite is in the safe class, its plan renames over the object (no unlink)
example : SafeFixedB { atomicReplace := true } { op := .put, key := ["zz"] } fs0 = true := by decide +kernel
example : (plan { atomicReplace := true } { op := .put, key := ["zz"] } fs0).length = 7 := by decide +kernel
example : (plan { atomicReplace := true } { op := .put, key := ["zz"] } fs0).contains (.unlink ["R", "b", "zz"]) = false := by decide +kernel
example : (plan {} { op := .delete, key := ["zz"] } fs0).length = 1 := by decide +kernel
-- the backend as committed (all three repairs): a copy from a TAGGED source over an existing TAGGED object is in the
-- safe class; its plan writes the tags onto the temp file and ends with the rename over the object
def nowCfg : Cfg := { atomicReplace := true, tagsFirst := true, copyTagsFirst := true }
def fsSrc : FS := { ents := [(["R", "b"], .dir []), (["R", "b", ".sgwtmp"], .dir []),
                             (["R", "b", "src"], .file "new" [("etag", "e"), ("X-Amz-Tagging", "tg")]),
                             (["R", "b", "k"], .file "old" [("etag", "old"), ("X-Amz-Tagging", "told")])] }
def cpK : Req := { op := .copy, key := ["k"], src := ["src"] }
example : SafeFixedB nowCfg cpK fsSrc = true := by decide +kernel
-- a tagged PutObject over the same object: the tags go onto the temp file, the plan ends with the rename over the object
def putT : Req := { op := .put, key := ["k"], tags := true }
example : SafeFixedB nowCfg putT fsSrc = true := by decide +kernel
example : (plan nowCfg putT fsSrc).getLast? = some (.rename ["R", "b", ".sgwtmp", "TMP"] ["R", "b", "k"]) := by decide +kernel
example : (plan nowCfg putT fsSrc).contains (.setx (.anon 0) "X-Amz-Tagging" "new") = true := by decide +kernel
example : (view nowCfg (run (plan nowCfg putT fsSrc) fsSrc) ["k"]).map (fun v => (v.data, v.tags)) = some ("new", some "new") := by decide +kernel
-- a PutObject asking for a legal hold is outside the class (PutObjectLegalHold follows the publication) unless
-- docs/C11-fix-3.diff is applied
example : SafeFixedB nowCfg { putT with hold := true } fsSrc = false := by decide +kernel
example : SafeFixedB { nowCfg with holdFirst := true } { putT with hold := true } fsSrc = true := by decide +kernel
-- without the CopyObject repair the same request is outside the class (tags follow the publication)
example : SafeFixedB { nowCfg with copyTagsFirst := false } cpK fsSrc = false := by decide +kernel

end Vgw.Props.C11
