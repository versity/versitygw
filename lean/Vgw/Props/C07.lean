/-
  C07 — Listings are complete, ordered, correctly grouped and paginate without loss.

  Spec level: for any key set, prefix, delimiter (multi-byte too) and marker, what `Spec.List` lists
  and in which order, and that following the next markers yields every entry exactly once.
  Model level (`Model.Walk.walk`, the model of backend.Walk): the property at full strength is
  `walk_refines_spec_full`, a `def … : Prop` that the unchanged code violates (Vgw/Open/C07.lean);
  proved is `walk_refines_spec_partial`, under the hypotheses listed there, and on top of it that
  the model's own pagination yields every entry exactly once.
  Not reached: delimiters other than "" and "/" (the code is wrong there even for its own markers:
  `Open.C07.delim_second_page_rejected`), explicit directory objects (wrong for "" and for "/" with
  children; childless ones with "/" are only covered by the differential runs).
-/
import Vgw.Lemmas.WalkFinal
import Vgw.Lemmas.WalkRoot
import Vgw.Lemmas.WalkMarker
namespace Vgw.Props.C07
open Vgw Vgw.Model.Walk Vgw.Spec.List

/-- **Entry names are strictly ascending** — for every key set, prefix, delimiter and marker. -/
theorem entries_ascending (K : List Bytes) (P D M : Bytes) :
    (entries K P D M).Pairwise (fun a b => blt a.name b.name = true) :=
  entries_sorted K P D M

/-- **Exactly the entries of the keys with the prefix that are after the marker are listed.** -/
theorem entries_complete (K : List Bytes) (P D M : Bytes) (e : Entry) :
    e ∈ entries K P D M ↔ ∃ k, k ∈ K ∧ P <+: k ∧ after P D M k = true ∧ entry P D k = e :=
  mem_entries K P D M e

/-- **Restarting from a truncated page's next marker yields exactly the entries cut off.** -/
theorem restart_after_next (K : List Bytes) (P D M : Bytes) (hK : [] ∉ K) (N : Nat) (hN : 0 < N)
    (hl : N ≤ (entries K P D M).length) :
    entries K P D (lastName ((entries K P D M).take N)) = (entries K P D M).drop N := by
  obtain ⟨e, hmem, hlast⟩ := lastName_take_mem _ N hN hl
  rw [hlast, entries_restart K P D M hK e hmem, ← hlast]
  exact filter_gt_last_take _ (entries_sorted K P D M) N hN hl

/-- follow the next markers, at most `fuel` pages -/
def paginate (K : List Bytes) (P D : Bytes) (N : Nat) : Nat → Bytes → List Page
  | 0, _ => []
  | fuel + 1, M =>
    let pg := list K P D M N
    if pg.truncated then pg :: paginate K P D N fuel pg.next else [pg]

/-- **Following the returned next markers terminates (after at most |entries| + 1 pages, the last
one not truncated) and yields every entry exactly once, in order** — any key set without the empty
key, any prefix, delimiter, start marker and page size ≥ 1. -/
theorem paginate_complete (K : List Bytes) (P D : Bytes) (hK : [] ∉ K) (N : Nat) (hN : 0 < N) :
    ∀ (fuel : Nat) (M : Bytes), (entries K P D M).length < fuel →
      ((paginate K P D N fuel M).flatMap (·.items) = entries K P D M) ∧
      (∃ pg, (paginate K P D N fuel M).getLast? = some pg ∧ pg.truncated = false) ∧
      (paginate K P D N fuel M).length ≤ (entries K P D M).length + 1
  | 0, _, h => by omega
  | fuel + 1, M, h => by
    unfold paginate
    rw [list_of_pos K P D M N hN]
    dsimp only
    by_cases ht : N < (entries K P D M).length
    · simp only [ht, decide_true, if_true]
      have hnext := restart_after_next K P D M hK N hN (by omega)
      have ih := paginate_complete K P D hK N hN fuel (lastName ((entries K P D M).take N))
        (by rw [hnext, List.length_drop]; omega)
      rw [hnext] at ih
      obtain ⟨ih1, ⟨pg, ih2, ih3⟩, ih4⟩ := ih
      refine ⟨?_, ⟨pg, ?_, ih3⟩, ?_⟩
      · rw [List.flatMap_cons, ih1]; exact List.take_append_drop N _
      · rw [List.getLast?_cons, ih2]; rfl
      · rw [List.length_cons, List.length_drop] at *; omega
    · simp [ht, List.take_of_length_le (Nat.le_of_not_lt ht)]

/-- no entry is listed twice (a consequence of `entries_ascending`) -/
theorem entries_nodup (K : List Bytes) (P D M : Bytes) : (entries K P D M).Nodup :=
  nodup_of_names_ascending (entries_sorted K P D M)

/-- the model of backend.Walk returns exactly the page the specification defines for the keys
stored in the tree (those outside skipped directories) -/
def Refines (top : List Tree) (g : GetObj) (skip : List Bytes) (P D M : Bytes) (N : Nat) : Prop :=
  walk ⟨P, D, M, (N : Int), g, skip⟩ top = result g (keysList g skip [] top) P D M N

/-- **C07 at full strength** for the model: every well-formed tree, every size/ETag callback, skip
list, prefix, delimiter, marker and page size. FALSE for the unchanged code — see Vgw/Open/C07.lean. -/
def walk_refines_spec_full : Prop :=
  ∀ (top : List Tree) (g : GetObj) (skip : List Bytes) (P D M : Bytes) (N : Nat),
    wfList top = true → Refines top g skip P D M N

/-- The pre-order in which `fs.WalkDir` hands paths to the callback is the
ascending byte order of those paths exactly when sibling names are order-compatible. -/
theorem events_sorted (top : List Tree) (base : Bytes) (hwf : wfList top = true) :
    (eventsList base top).Pairwise (fun a b => blt a b = true) ↔ ocList top = true :=
  ⟨oc_of_eventsList_sorted top base, eventsList_sorted top base hwf⟩

/-- **pruning is sound and the emissions are the specified entries** (the core of the refinement):
for the visible events of a forest, what the callback adds is, as a set, exactly
`{entry k | k a key of the forest with the prefix, after the marker}`, with true sizes/ETags. -/
theorem emissions_are_entries (c : Cfg) (h : Hyp c) (ts : List Tree) (b : Bytes) (hwf : wfList ts = true)
    (hpop : populatedList c.getObj c.skip b ts = true) (hb : BaseOK c b)
    (hmc : ∀ k ∈ keysList c.getObj c.skip b ts, MC c k) :
    Good c (keysList c.getObj c.skip b ts) (emsOf c (visList c b ts)) (eventsList b ts) :=
  good_list c h ts b hwf hpop hb hmc

theorem mc_of_markerClear (c : Cfg) (K : List Bytes) (h : markerClear K c.pfx c.delim c.marker = true) :
    ∀ k ∈ K, MC c k := by
  intro k hk hM hD hP x hcut hpm
  exact (((markerClear_iff K _ _ _).1 h).resolve_left hM).resolve_left hD k hk hP x hcut hpm

/-- the prefix does not select a root below the top level (no '/' in it after position 0), or the
root is "." -/
def topLevelPrefix (P : Bytes) : Bool := rootOf P == none || rootOf P == some [46]

theorem insideSkip_dot (skip : List Bytes) (h : [46] ∉ skip) : insideSkip skip [46] = false := by
  unfold insideSkip
  rw [List.any_eq_false]
  intro s hs
  have h1 : ([46] : Bytes) ≠ s := fun e => h (e ▸ hs)
  have h2 : hasPrefix [46] (s ++ [slash]) = false := by
    rw [← Bool.not_eq_true, hasPrefix_iff]
    intro hp
    have hl := hp.length_le
    cases s with
    | nil => simp [slash] at hp
    | cons _ _ => simp at hl
  simp [h1, h2]

/-- `walk_refines_spec_partial` for prefixes resolved at the top level -/
theorem walk_refines_spec_partial_toplevel (top : List Tree) (g : GetObj) (skip : List Bytes)
    (P D M : Bytes) (N : Nat)
    (hwf : wfList top = true) (hoc : ocList top = true) (hD : D = [] ∨ D = [slash])
    (hnd : ∀ p : Bytes, g (p ++ [slash]) = none)
    (hpop : populatedList g skip [] top = true)
    (hdot : [46] ∉ skip)
    (hmc : markerClear (keysList g skip [] top) P D M = true)
    (hP : topLevelPrefix P = true) : Refines top g skip P D M N := by
  unfold Refines
  by_cases hN : N = 0
  · subst hN; exact (walk_zero _ _ rfl).trans (result_zero g _ P D M).symm
  · let c : Cfg := ⟨P, D, M, (N : Int), g, skip⟩
    have hr : rootOf c.pfx = none ∨ rootOf c.pfx = some [46] := by
      simpa [topLevelPrefix] using hP
    show walk c top = _
    rw [walk_toplevel c top (show (N : Int) ≠ 0 by omega) (insideSkip_dot skip hdot) hr]
    exact walkList_refines c ⟨hD, hnd⟩ N (by omega) rfl top [] hwf hoc hpop
      (fun _ hp => (List.prefix_nil.1 hp).symm) (mc_of_markerClear c _ hmc)

/-! ### prefixes that select a root below the top level -/

/-- only the keys carrying the prefix matter -/
theorem entries_congr (K1 K2 : List Bytes) (P D M : Bytes) (h : ∀ k, P <+: k → (k ∈ K1 ↔ k ∈ K2)) :
    entries K1 P D M = entries K2 P D M := by
  apply sorted_ext _ _ (entries_sorted K1 P D M) (entries_sorted K2 P D M)
  intro e
  rw [mem_entries, mem_entries]
  constructor
  · rintro ⟨k, h1, h2, h3⟩; exact ⟨k, (h k h2).1 h1, h2, h3⟩
  · rintro ⟨k, h1, h2, h3⟩; exact ⟨k, (h k h2).2 h1, h2, h3⟩

theorem result_congr (g : GetObj) (K1 K2 : List Bytes) (P D M : Bytes) (N : Nat)
    (h : entries K1 P D M = entries K2 P D M) : result g K1 P D M N = result g K2 P D M N := by
  unfold result list
  rw [h]

theorem result_empty (g : GetObj) (K : List Bytes) (P D M : Bytes) (N : Nat)
    (h : ∀ k ∈ K, ¬ P <+: k) : result g K P D M N = Result.empty := by
  have he : entries K P D M = [] := by
    apply List.eq_nil_iff_forall_not_mem.2
    intro e he
    obtain ⟨k, h1, h2, _⟩ := (mem_entries K P D M e).1 he
    exact h k h1 h2
  cases N with
  | zero => rfl
  | succ n => rw [result, list_of_pos _ _ _ _ _ (Nat.succ_pos n), he]; rfl

/-- For every well-formed tree, size/ETag callback, skip list,
prefix, marker and page size N ≥ 0, the model of backend.Walk returns exactly the page
`Spec.List.list` defines (objects in order with the callback's sizes and ETags, common prefixes in
order, truncation flag, next marker), provided
  * `hD`   the delimiter is "" or "/",
  * `hoc`  no directory has a sibling whose name extends the directory's name by a byte < '/',
  * `hnd`  no directory is an explicit directory object,
  * `hpop` every directory (outside skipped ones) holds at least one key,
  * `hdot` "." is not in the skip list (a sanity condition on the configuration),
  * `hmc`  (delimiter "/") the marker is clear of the common prefixes.
Files named like a skipped directory are ordinary keys, a prefix reaching below a skipped directory
selects nothing (both were findings before the repairs C07-fix-1/2). Without any one of hD, hoc, hnd,
hpop, hmc the statement is false: witnesses in Vgw/Open/C07.lean (for hD alone `delim_grey_zone`;
`delim_second_page_rejected`, the server's own marker with delimiter `-`, fails hmc as well). -/
theorem walk_refines_spec_partial (top : List Tree) (g : GetObj) (skip : List Bytes)
    (P D M : Bytes) (N : Nat)
    (hwf : wfList top = true) (hoc : ocList top = true) (hD : D = [] ∨ D = [slash])
    (hnd : ∀ p : Bytes, g (p ++ [slash]) = none)
    (hpop : populatedList g skip [] top = true)
    (hdot : [46] ∉ skip)
    (hmc : markerClear (keysList g skip [] top) P D M = true) : Refines top g skip P D M N := by
  by_cases htop : topLevelPrefix P = true
  · exact walk_refines_spec_partial_toplevel top g skip P D M N hwf hoc hD hnd hpop hdot hmc htop
  · unfold Refines
    by_cases hN : N = 0
    · subst hN; exact (walk_zero _ _ rfl).trans (result_zero g _ P D M).symm
    · obtain ⟨r, hr, hr46⟩ : ∃ r, rootOf P = some r ∧ r ≠ [46] := by
        cases hr : rootOf P with
        | none => simp [topLevelPrefix, hr] at htop
        | some r => exact ⟨r, rfl, fun e => by simp [topLevelPrefix, hr, e] at htop⟩
      let c : Cfg := ⟨P, D, M, (N : Int), g, skip⟩
      show walk c top = _
      rcases walk_below_cases c top r (show (N : Int) ≠ 0 by omega) hr hr46 ⟨hwf, hoc, hpop, fun _ h => h⟩ with
        ⟨hw, hno⟩ | ⟨base, t, hw, hnode, hbase, hkeys⟩
      · -- nothing is listed; no key carries the prefix, so nothing is specified
        exact hw.trans (result_empty g _ P D M N hno).symm
      · -- the node holds every key that carries the prefix, and only keys of the forest
        rw [hw, walkNode_refines c ⟨hD, hnd⟩ N (by omega) rfl t base hnode.wf hnode.oc hnode.pop hbase
          (fun k hk => mc_of_markerClear c _ hmc k (hnode.keys k hk))]
        exact result_congr g _ _ P D M N
          (entries_congr _ _ P D M fun k hp => ⟨hnode.keys k, fun hk => hkeys k hk hp⟩)

/-! ### pagination at model level -/

/-- **markers the server issues itself are safe**: the name of any entry (what a truncated page
returns as its next marker) is clear of every common prefix, in an order-compatible tree without
directory objects. -/
theorem server_issued_marker_clear (top : List Tree) (g : GetObj) (skip : List Bytes) (P D M : Bytes)
    (hwf : wfList top = true) (hoc : ocList top = true) (hD : D = [] ∨ D = [slash])
    (hnd : ∀ p : Bytes, g (p ++ [slash]) = none)
    (hsi : serverIssued (keysList g skip [] top) P D M = true) :
    markerClear (keysList g skip [] top) P D M = true := by
  rcases hD with rfl | rfl
  · exact (markerClear_iff _ _ _ _).2 (Or.inr (Or.inl rfl))
  · exact serverIssued_markerClear top g skip P M hwf hoc hnd hsi

/-- follow the MODEL's own next markers, at most `fuel` pages -/
def walkPages (top : List Tree) (g : GetObj) (skip : List Bytes) (P D : Bytes) (N : Nat) : Nat → Bytes → List Result
  | 0, _ => []
  | fuel + 1, M =>
    let r := walk ⟨P, D, M, (N : Int), g, skip⟩ top
    if r.truncated then r :: walkPages top g skip P D N fuel r.next else [r]

theorem keysList_ne_nil (g : GetObj) (skip : List Bytes) (top : List Tree) (hwf : wfList top = true) :
    [] ∉ keysList g skip [] top := by
  intro h
  obtain ⟨t, ht, hk⟩ := (mem_keysList g skip [] top []).1 h
  have hp := keysNode_prefix g skip t [] [] hk
  have hne := validName_ne_nil _ (wfNode_validName t (wfList_mem top hwf t ht))
  have := List.prefix_nil.1 hp
  simp at this
  exact hne this

theorem lastName_take_serverIssued (K : List Bytes) (P D M : Bytes) (N : Nat) (hN : 0 < N)
    (hl : N ≤ (entries K P D M).length) :
    serverIssued K P D (lastName ((entries K P D M).take N)) = true := by
  obtain ⟨e, hmem, hlast⟩ := lastName_take_mem _ N hN hl
  obtain ⟨k, hk, hp, _, he⟩ := (mem_entries K P D M _).1 hmem
  exact (serverIssued_iff K P D _).2 (Or.inr ⟨k, hk, hp, by rw [hlast, he]⟩)

/-- **the model's pagination is the specification's pagination**: starting from any marker that is
clear of the common prefixes (in particular no marker, or any marker when there is no delimiter),
every page the model returns while following its own next markers is the specified page. -/
theorem walk_pages_eq_spec (top : List Tree) (g : GetObj) (skip : List Bytes) (P D : Bytes) (N : Nat)
    (hN : 0 < N)
    (hwf : wfList top = true) (hoc : ocList top = true) (hD : D = [] ∨ D = [slash])
    (hnd : ∀ p : Bytes, g (p ++ [slash]) = none)
    (hpop : populatedList g skip [] top = true)
    (hdot : [46] ∉ skip) :
    ∀ (fuel : Nat) (M : Bytes), markerClear (keysList g skip [] top) P D M = true →
      walkPages top g skip P D N fuel M =
        (paginate (keysList g skip [] top) P D N fuel M).map (Page.toResult g)
  | 0, _, _ => rfl
  | fuel + 1, M, hmc => by
    have href : Refines top g skip P D M N :=
      walk_refines_spec_partial top g skip P D M N hwf hoc hD hnd hpop hdot hmc
    unfold Refines result at href
    unfold walkPages paginate
    dsimp only
    rw [href, list_of_pos _ P D M N hN]
    by_cases ht : N < (entries (keysList g skip [] top) P D M).length
    · simp only [Page.toResult, ht, decide_true, if_true, List.map_cons]
      congr 1
      apply walk_pages_eq_spec top g skip P D N hN hwf hoc hD hnd hpop hdot fuel
      exact server_issued_marker_clear top g skip P D _ hwf hoc hD hnd
        (lastName_take_serverIssued _ P D M N hN (by omega))
    · simp [Page.toResult, ht]

theorem flatMap_objects_toResult (g : GetObj) : ∀ pages : List Page,
    (pages.map (Page.toResult g)).flatMap (·.objects) = objsOf g (pages.flatMap (·.items))
  | [] => rfl
  | p :: ps => by
    simp only [List.map_cons, List.flatMap_cons, flatMap_objects_toResult g ps]
    simp [Page.toResult, objsOf, List.filterMap_append]

theorem flatMap_cps_toResult (g : GetObj) : ∀ pages : List Page,
    (pages.map (Page.toResult g)).flatMap (·.cps) = cpsOf (pages.flatMap (·.items))
  | [] => rfl
  | p :: ps => by
    simp only [List.map_cons, List.flatMap_cons, flatMap_cps_toResult g ps]
    simp [Page.toResult, cpsOf, List.filterMap_append]

/-- Following the model's own next markers terminates (at most
|entries| + 1 pages, the last one not truncated) and the pages together hold every specified entry
exactly once, in order: the objects (with the callback's sizes/ETags) and the common prefixes of
`Spec.List.entries`. -/
theorem walk_paginate_complete (top : List Tree) (g : GetObj) (skip : List Bytes) (P D M : Bytes) (N : Nat)
    (hN : 0 < N)
    (hwf : wfList top = true) (hoc : ocList top = true) (hD : D = [] ∨ D = [slash])
    (hnd : ∀ p : Bytes, g (p ++ [slash]) = none)
    (hpop : populatedList g skip [] top = true)
    (hdot : [46] ∉ skip)
    (hmc : markerClear (keysList g skip [] top) P D M = true)
    (fuel : Nat) (hfuel : (entries (keysList g skip [] top) P D M).length < fuel) :
    (walkPages top g skip P D N fuel M).flatMap (·.objects) = objsOf g (entries (keysList g skip [] top) P D M) ∧
    (walkPages top g skip P D N fuel M).flatMap (·.cps) = cpsOf (entries (keysList g skip [] top) P D M) ∧
    (∃ r, (walkPages top g skip P D N fuel M).getLast? = some r ∧ r.truncated = false) ∧
    (walkPages top g skip P D N fuel M).length ≤ (entries (keysList g skip [] top) P D M).length + 1 := by
  rw [walk_pages_eq_spec top g skip P D N hN hwf hoc hD hnd hpop hdot fuel M hmc]
  obtain ⟨h1, ⟨pg, h2, h3⟩, h4⟩ :=
    paginate_complete (keysList g skip [] top) P D (keysList_ne_nil g skip top hwf) N hN fuel M hfuel
  refine ⟨?_, ?_, ?_, ?_⟩
  · rw [flatMap_objects_toResult, h1]
  · rw [flatMap_cps_toResult, h1]
  · refine ⟨pg.toResult g, ?_, h3⟩
    rw [List.getLast?_map, h2]; rfl
  · simpa using h4

/-! ### corollaries: true sizes/ETags, no internal names -/

theorem mem_objsOf (g : GetObj) : ∀ (es : List Entry) (o : Obj), o ∈ objsOf g es →
    Entry.obj o.key ∈ es ∧ g o.key = some (o.size, o.etag) := by
  intro es o h
  obtain ⟨e, he, heq⟩ := List.mem_filterMap.1 h
  cases e with
  | cp n => cases heq
  | obj k =>
    dsimp only at heq
    cases hg : g k with
    | none => rw [hg] at heq; cases heq
    | some m => rw [hg] at heq; cases heq; exact ⟨he, hg⟩

theorem list_items_sub (K : List Bytes) (P D M : Bytes) (N : Nat) :
    ∀ e ∈ (list K P D M N).items, e ∈ entries K P D M := by
  intro e he
  cases N with
  | zero => cases he
  | succ n =>
    rw [list_of_pos _ _ _ _ _ (Nat.succ_pos n)] at he
    exact List.mem_of_mem_take he

/-- Whenever the model returns the specified page, every
object on it is a key stored in the tree OUTSIDE the skipped (bookkeeping) directories, carries the
prefix, and has the size and ETag the callback reports for it. -/
theorem listed_objects_are_keys (top : List Tree) (g : GetObj) (skip : List Bytes) (P D M : Bytes) (N : Nat)
    (h : Refines top g skip P D M N) :
    ∀ o ∈ (walk ⟨P, D, M, (N : Int), g, skip⟩ top).objects,
      o.key ∈ keysList g skip [] top ∧ P <+: o.key ∧ g o.key = some (o.size, o.etag) := by
  intro o ho
  rw [h] at ho
  obtain ⟨hmem, hg⟩ := mem_objsOf g _ o ho
  obtain ⟨k, hk, hp, _, he⟩ := (mem_entries _ P D M _).1 (list_items_sub _ P D M N _ hmem)
  have hkey : o.key = k := entry_obj_eq P D k o.key hp he
  exact ⟨hkey ▸ hk, hkey ▸ hp, hg⟩

/-- every common prefix on the page is the roll-up of a key stored outside the skipped directories -/
theorem listed_prefixes_are_rollups (top : List Tree) (g : GetObj) (skip : List Bytes) (P D M : Bytes) (N : Nat)
    (h : Refines top g skip P D M N) :
    ∀ n ∈ (walk ⟨P, D, M, (N : Int), g, skip⟩ top).cps,
      ∃ k ∈ keysList g skip [] top, P <+: k ∧ entry P D k = .cp n := by
  intro n hn
  rw [h] at hn
  obtain ⟨k, hk, hp, _, he⟩ :=
    (mem_entries _ P D M _).1 (list_items_sub _ P D M N _ ((mem_cpsOf _ n).1 hn))
  exact ⟨k, hk, hp, he⟩

/-! ## Non-vacuity: concrete inputs that meet the hypotheses of the theorems above, and the pages the
model returns on them

Bytes: a=97 b=98 c=99 s=115 x=120, '.'=46, '/'=47. -/

/-- every file is an object (size = length of its key, ETag = its key); no directory is -/
def fileOnly : GetObj := fun k => if k.getLast? = some 47 then none else some (k.length, k)

theorem fileOnly_noDirObj (p : Bytes) : fileOnly (p ++ [slash]) = none := by
  simp [fileOnly, slash]

/-- `.s/x` (internal), `a/b`, `a/c`, `ab`, `b` -/
def sampleTree : List Tree :=
  [.dir [46, 115] [.file [120]], .dir [97] [.file [98], .file [99]], .file [97, 98], .file [98]]

/-- prefix `a/`, delimiter `/`, first page of size 1 -/
example : Refines sampleTree fileOnly [[46, 115]] [97, 47] [47] [] 1 :=
  walk_refines_spec_partial sampleTree fileOnly [[46, 115]] [97, 47] [47] [] 1 (by decide +kernel) (by decide +kernel)
    (Or.inr rfl) fileOnly_noDirObj (by decide +kernel) (by decide +kernel) (by decide +kernel)
example : walk ⟨[97, 47], [47], [], 1, fileOnly, [[46, 115]]⟩ sampleTree =
    ⟨[⟨[97, 47, 98], 3, [97, 47, 98]⟩], [], true, [97, 47, 98]⟩ := by decide +kernel
/-- continuing from the returned marker `a/b` (a key: clear of every common prefix) -/
example : Refines sampleTree fileOnly [[46, 115]] [97, 47] [47] [97, 47, 98] 1 :=
  walk_refines_spec_partial sampleTree fileOnly [[46, 115]] [97, 47] [47] [97, 47, 98] 1 (by decide +kernel) (by decide +kernel)
    (Or.inr rfl) fileOnly_noDirObj (by decide +kernel) (by decide +kernel) (by decide +kernel)
/-- no prefix, delimiter `/`, marker = the common prefix `a/` an earlier page returned -/
example : Refines sampleTree fileOnly [[46, 115]] [] [47] [97, 47] 5 :=
  walk_refines_spec_partial sampleTree fileOnly [[46, 115]] [] [47] [97, 47] 5 (by decide +kernel) (by decide +kernel)
    (Or.inr rfl) fileOnly_noDirObj (by decide +kernel) (by decide +kernel) (by decide +kernel)
example : walk ⟨[], [47], [97, 47], 5, fileOnly, [[46, 115]]⟩ sampleTree =
    ⟨[⟨[97, 98], 2, [97, 98]⟩, ⟨[98], 1, [98]⟩], [], false, []⟩ := by decide +kernel
/-- no delimiter, arbitrary marker `a/bb` (not a key) -/
example : Refines sampleTree fileOnly [[46, 115]] [] [] [97, 47, 98, 98] 2 :=
  walk_refines_spec_partial sampleTree fileOnly [[46, 115]] [] [] [97, 47, 98, 98] 2 (by decide +kernel) (by decide +kernel)
    (Or.inl rfl) fileOnly_noDirObj (by decide +kernel) (by decide +kernel) (by decide +kernel)
example : walk ⟨[], [], [97, 47, 98, 98], 2, fileOnly, [[46, 115]]⟩ sampleTree =
    ⟨[⟨[97, 47, 99], 3, [97, 47, 99]⟩, ⟨[97, 98], 2, [97, 98]⟩], [], true, [97, 98]⟩ := by decide +kernel
example : (eventsList [] sampleTree).Pairwise (fun a b => blt a b = true) :=
  (events_sorted sampleTree [] (by decide +kernel)).2 (by decide +kernel)
/-- the model's own pagination of `sampleTree` with delimiter `/`, page size 1: [ab]… pages a/, ab, b -/
example : (walkPages sampleTree fileOnly [[46, 115]] [] [47] 1 5 []).map (fun r => (r.objects.map (·.key), r.cps, r.truncated)) =
    [([], [[97, 47]], true), ([[97, 98]], [], true), ([[98]], [], false)] := by decide +kernel
example : (walkPages sampleTree fileOnly [[46, 115]] [] [47] 1 5 []).flatMap (·.objects) =
    objsOf fileOnly (entries (keysList fileOnly [[46, 115]] [] sampleTree) [] [47] []) :=
  (walk_paginate_complete sampleTree fileOnly [[46, 115]] [] [47] [] 1 (by decide +kernel) (by decide +kernel) (by decide +kernel)
    (Or.inr rfl) fileOnly_noDirObj (by decide +kernel) (by decide +kernel) (by decide +kernel) 5 (by decide +kernel)).1
example : serverIssued (keysList fileOnly [[46, 115]] [] sampleTree) [] [47] [97, 47] = true := by decide +kernel
/-- spec level: three keys, page size 1, delimiter `-` (= 45): pages [a-], [b] -/
example : (paginate [[97, 45, 98], [97, 45, 99], [98]] [] [45] 1 4 []).map (·.items) =
    [[.cp [97, 45]], [.obj [98]]] := by decide +kernel
example : [] ∉ [[97, 45, 98], [97, 45, 99], ([98] : Bytes)] := by decide +kernel
example : topLevelPrefix [97] = true ∧ topLevelPrefix [97, 47] = false := by decide +kernel

/-! ### regression examples: former findings, repaired in backend/walk.go (C07-fix-1/2/3)

Bytes: m=109 x=120 y=121 z=122, '0'=48 plays the role of `.sgwtmp`. -/

/-- skip list [`0`], keys `x/0`, `x/z`: a FILE named like the skipped directory is an ordinary key and
does not end the walk of its directory (was `walk:skip-name-below-top-level`) -/
def tSkipFile : List Tree := [.dir [120] [.file [48], .file [122]]]
example : Refines tSkipFile fileOnly [[48]] [] [] [] 10 :=
  walk_refines_spec_partial tSkipFile fileOnly [[48]] [] [] [] 10 (by decide +kernel) (by decide +kernel)
    (Or.inl rfl) fileOnly_noDirObj (by decide +kernel) (by decide +kernel) (by decide +kernel)
example : walk ⟨[], [], [], 10, fileOnly, [[48]]⟩ tSkipFile =
    ⟨[⟨[120, 47, 48], 3, [120, 47, 48]⟩, ⟨[120, 47, 122], 3, [120, 47, 122]⟩], [], false, []⟩ := by decide +kernel
/-- a DIRECTORY named `0` below the top level is not internal either: `x/0/y` is listed -/
example : walk ⟨[], [], [], 10, fileOnly, [[48]]⟩ [.dir [120] [.dir [48] [.file [121]]]] =
    ⟨[⟨[120, 47, 48, 47, 121], 5, [120, 47, 48, 47, 121]⟩], [], false, []⟩ := by decide +kernel

/-- skip list [`0`], internal path `0/m/x`, key `y`, prefix `0/m/`: nothing is listed (was
`walk:prefix-below-skipdir`) -/
def tBelow : List Tree := [.dir [48] [.dir [109] [.file [120]]], .file [121]]
example : Refines tBelow fileOnly [[48]] [48, 47, 109, 47] [] [] 10 :=
  walk_refines_spec_partial tBelow fileOnly [[48]] [48, 47, 109, 47] [] [] 10 (by decide +kernel) (by decide +kernel)
    (Or.inl rfl) fileOnly_noDirObj (by decide +kernel) (by decide +kernel) (by decide +kernel)
example : walk ⟨[48, 47, 109, 47], [], [], 10, fileOnly, [[48]]⟩ tBelow = Result.empty ∧
    keysList fileOnly [[48]] [] tBelow = [[121]] ∧
    walk ⟨[48, 47], [], [], 10, fileOnly, [[48]]⟩ tBelow = Result.empty ∧
    walk ⟨[], [], [], 10, fileOnly, [[48]]⟩ tBelow = ⟨[⟨[121], 1, [121]⟩], [], false, []⟩ := by decide +kernel

/-- prefix `x//` (root `x/` is not a valid path): the empty listing (was `walk:invalid-root-prefix`
end to end: os.DirFS answers fs.ErrInvalid, now suppressed like fs.ErrNotExist) -/
example : Refines tSkipFile fileOnly [[48]] [120, 47, 47] [] [] 10 :=
  walk_refines_spec_partial tSkipFile fileOnly [[48]] [120, 47, 47] [] [] 10 (by decide +kernel) (by decide +kernel)
    (Or.inl rfl) fileOnly_noDirObj (by decide +kernel) (by decide +kernel) (by decide +kernel)
example : walk ⟨[120, 47, 47], [], [], 10, fileOnly, [[48]]⟩ tSkipFile = Result.empty := by decide +kernel

end Vgw.Props.C07
