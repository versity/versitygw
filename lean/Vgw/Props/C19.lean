/-
  C19 — Event notifications match committed changes.
  Theorems over `Model.Gw.step` and, for the single operations, over `handle` (the records before
  `finish` applies the filter): what is handed to the event sender (the record is built
  synchronously, before the asynchronous delivery; delivery itself is runtime behaviour observed
  only by the correspondence check).
-/
import Vgw.Lemmas.GwHandlers
namespace Vgw.Props.C19
open Vgw Vgw.Model.Gw

/-- **A request that failed results in no notification**, for every operation, caller, state and
filter configuration. -/
theorem no_event_on_error (cfg : Cfg) (s : State) (r : Req) (h : (step cfg s r).2.code ≠ "") :
    (step cfg s r).2.events = [] := by
  unfold step at h ⊢
  split
  · rfl
  · rename_i w hw
    simp only [hw, finish_code] at h
    simp only [finish, h, if_false]

/-- **Filter semantics**: the exact event name decides when it is listed; -/
theorem filter_exact (m : List (String × Bool)) (name : String) (v : Bool)
    (h : m.find? (·.1 == name) = some (name, v)) : filterPass (some m) name = v := by
  simp [filterPass, h]

/-- otherwise its `…:*` wildcard decides when that is listed; -/
theorem filter_wildcard (m : List (String × Bool)) (name : String) (v : Bool)
    (h : m.find? (·.1 == name) = none)
    (hw : m.find? (·.1 == ":".intercalate ((name.splitOn ":").dropLast ++ ["*"])) =
      some (":".intercalate ((name.splitOn ":").dropLast ++ ["*"]), v)) :
    filterPass (some m) name = v := by
  simp [filterPass, h, hw]

/-- otherwise the event is dropped. -/
theorem filter_drop (m : List (String × Bool)) (name : String)
    (h : m.find? (·.1 == name) = none)
    (hw : m.find? (·.1 == ":".intercalate ((name.splitOn ":").dropLast ++ ["*"])) = none) :
    filterPass (some m) name = false := by
  simp [filterPass, h, hw]

/-- No filter file: everything passes. -/
theorem filter_none (name : String) : filterPass none name = true := rfl

/-- every record that leaves `step` passed the filter -/
theorem events_pass_filter (cfg : Cfg) (s : State) (r : Req) :
    ∀ e ∈ (step cfg s r).2.events, filterPass cfg.eventFilter e.name = true := by
  unfold step
  split
  · intro e he; cases he
  · simp only [finish]
    split
    · intro e he; exact (List.mem_filter.mp he).2
    · intro e he; cases he

/-- **A successful PUT hands over exactly one record, naming that bucket and key, the size of the
stored body and its ETag.** -/
theorem put_one_event (cfg : Cfg) (s : State) (w : Who) (now : Int) (b k : Bytes) (p : PutSpec) (nv : Bytes)
    (hok : (handle cfg s w now (.putObject b k p nv)).2.code = "") :
    (handle cfg s w now (.putObject b k p nv)).2.events = [⟨"s3:ObjectCreated:Put", b, k, p.data.size, p.etag⟩] := by
  obtain ⟨bk, _, _, _, heq⟩ := putObject_ok hok
  rw [heq]
  rfl

/-- **A successful DELETE hands over exactly one record for that key.** -/
theorem delete_one_event (cfg : Cfg) (s : State) (w : Who) (now : Int) (b k vid : Bytes) (bp : Bool) (nv : Bytes)
    (hok : (handle cfg s w now (.deleteObject b k vid bp nv)).2.code = "") :
    (handle cfg s w now (.deleteObject b k vid bp nv)).2.events = [⟨"s3:ObjectRemoved:Delete", b, k, 0, []⟩] := by
  obtain ⟨bk, hb, _, _⟩ := gated_ok hok
  have h1 : handle cfg s w now (.deleteObject b k vid bp nv) = _ := gated_of_ok hok hb
  rw [h1] at hok ⊢
  have h2 := guarded_of_ok hok
  rw [h2] at hok ⊢
  have hc : (deleteOne cfg bk k vid nv).2.code = "" := hok
  dsimp only
  rw [hc]
  rfl

/-- **A batch delete hands over records for requested keys only**: every record is a
DeleteObjects record for this bucket and names a key of the request. -/
theorem batch_events_name_deleted_keys (cfg : Cfg) (s : State) (w : Who) (now : Int) (b : Bytes)
    (keys : List (Bytes × Bytes)) (bp : Bool) (nvs : List Bytes) :
    ∀ e ∈ (handle cfg s w now (.deleteObjects b keys bp nvs)).2.events,
      e.name = "s3:ObjectRemoved:DeleteObjects" ∧ e.bucket = b ∧ ∃ v, (e.key, v) ∈ keys := by
  refine withBucket_events fun bk => guarded_events fun _ => guarded_events fun _ e he => ?_
  simp only [okR, List.mem_map, List.mem_filter] at he
  obtain ⟨⟨k, c⟩, ⟨hmem, _⟩, rfl⟩ := he
  refine ⟨rfl, rfl, ?_⟩
  -- the outcome list names requested keys only
  rcases mem_foldl_log (σ := Bucket × List (Bytes × String) × List Bytes) _ (·.2.1) (fun kv x => x.1 = kv.1)
      (fun _ _ => ⟨_, rfl, rfl⟩) keys _ _ hmem with h | ⟨kv, hkv, hk⟩
  · cases h
  · exact ⟨kv.2, hk ▸ hkv⟩

/-! non-vacuity (the wildcard branch goes through `String.splitOn`, which the kernel does not
unfold; it is exercised by the correspondence check's filter configurations) -/
example : filterPass (some [("s3:ObjectCreated:*", true), ("s3:ObjectCreated:Copy", false)]) "s3:ObjectCreated:Copy" = false := by decide +kernel
example : filterPass none "s3:ObjectRemoved:Delete" = true := rfl

end Vgw.Props.C19
