/-
  C20 — no request can crash or wedge the gateway: panic-freedom and allocation bounds of the
  modelled request-path sites (`Model/Robust.lean`, `Model/RobustHandlers.lean`).

  Every model returns `Chk α = Except Panic α`; `noPanic x = true` says the Go code at that site
  returns normally.  Sites where the code as it is panics on some input carry a `fixed : Bool`
  parameter (`false` = as it is, `true` = with the proposed minimal repair): the full statement
  `C20_full fixed` is PROVED for `fixed = true` (`C20_fixed`) and REFUTED for `fixed = false`
  (`Open/C20.lean`, concrete witnesses); for `fixed = false` each defect site gets its exact
  panic condition (`…_iff`) or a condition under which it is safe (`…_asis_partial`), and the
  remaining sites are proved unconditionally.

  What the theorems do not cover: any site listed as unmodelled in the evidence, bounded latency,
  goroutine leaks, whole-program memory safety (runtime behaviour the models cannot exhibit).
-/
import Vgw.Lemmas.RobustHandlers
import Vgw.Lemmas.GlobSteps
import Vgw.Props.C12
namespace Vgw.Props.C20
open Vgw Vgw.Go Vgw.Model.Robust

/-! ## sites without a defect: for EVERY input the model returns a value -/

/-- backend.ParseCopySource returns normally on every non-empty header -/
theorem no_panic_parseCopySource (h : Bytes) (hne : h ≠ []) : noPanic (parseCopySource h) = true := by
  have hl : 0 < h.length := List.length_pos_iff.mpr hne
  unfold parseCopySource
  refine noPanic_idx_bind fun c0 => noPanic_bind (noPanic_ite (fun _ => ?_) fun _ => rfl) fun h1 _ => ?_
  · exact (sliceFrom_isOk_iff h 1).mpr (by omega)
  · rw [noPanic_map]; exact no_panic_copySourceSplit h1

/-- the empty string is the only input on which backend.ParseCopySource panics -/
theorem parseCopySource_panics_iff (h : Bytes) : noPanic (parseCopySource h) = false ↔ h = [] := by
  constructor
  · intro hp
    refine Decidable.byContradiction fun hne => ?_
    rw [no_panic_parseCopySource h hne] at hp
    cases hp
  · rintro rfl; rfl

/-- no X-Amz-Copy-Source header value makes the handlers pass ParseCopySource the empty string: PutActions
strips one leading "/" and takes the copy branches only for a non-empty rest. -/
theorem no_panic_copySourceOfRequest (hdr : Bytes) : noPanic (copySourceOfRequest hdr) = true := by
  unfold copySourceOfRequest controllerCopySource
  refine noPanic_bind (noPanic_ite (fun h => noPanic_idx_bind fun c => noPanic_ite (fun _ => ?_) fun _ => rfl) fun _ => rfl)
    fun cs _ => noPanic_guard fun hne => ?_
  · exact (sliceFrom_isOk_iff hdr 1).mpr (by omega)
  · rw [noPanic_map]; exact no_panic_parseCopySource cs hne

/-- backend.ParseObjectTags (x-amz-tagging, percent-decoded keys and values): every string -/
theorem no_panic_parseObjectTags (t : Bytes) : noPanic (parseObjectTags t) = true := by
  unfold parseObjectTags
  exact noPanic_guard fun _ => no_panic_objectTagsLoop _ _

/-- backend.ParseCopySourceRange: every object size and header -/
theorem no_panic_parseCopySourceRange (size : Int) (r : Bytes) : noPanic (parseCopySourceRange size r) = true := by
  unfold parseCopySourceRange
  refine noPanic_guard fun _ => noPanic_guard fun h => noPanic_idx_bind fun unit => noPanic_guard fun _ => ?_
  refine noPanic_idx_bind fun spec => noPanic_guard fun h2 => noPanic_idx_bind fun a => ?_
  split
  · rfl
  · exact no_panic_copyRangeEnd size _ _ (Decidable.not_not.mp h2)

/-- backend.ParseGetObjectRange with every index checked never panics and IS the model of C13,
`Model.Range.parseGetObjectRange` -/
theorem getObjectRange_refines (size : Int) (r : Bytes) :
    parseGetObjectRange size r = .ok (ofParse (Vgw.Model.Range.parseGetObjectRange size r)) := by
  unfold parseGetObjectRange Vgw.Model.Range.parseGetObjectRange
  by_cases hr : r = []
  · rw [if_pos hr, if_pos hr]; rfl
  · rw [if_neg hr, if_neg hr]
    -- Range takes the fields of a split by the pattern `[a, b]`, this parser by a length test and
    -- indexes: on each shape of the list both compute
    generalize splitOn 61 r = kv
    match kv with
    | [] | [_] | _ :: _ :: _ :: _ => rfl
    | [unit, spec] =>
      show (if unit ≠ bytesLit then _ else _) = Except.ok (ofParse (if unit ≠ bytesLit then _ else _))
      by_cases hu : unit ≠ bytesLit
      · rw [if_pos hu, if_pos hu]; rfl
      · rw [if_neg hu, if_neg hu]
        show (if (splitOn 45 spec).length ≠ 2 then _ else _) = _
        generalize splitOn 45 spec = ab
        match ab with
        | [] | [_] | _ :: _ :: _ :: _ => rfl
        | [a, b] =>
          show (match parseInt64 a with | none => _ | some s => _) =
            Except.ok (ofParse (match parseInt64 a with | none => _ | some s => _))
          cases parseInt64 a with
          | none => rfl
          | some s => exact getRangeEnd_refines size s a b

theorem no_panic_parseGetObjectRange (size : Int) (r : Bytes) : noPanic (parseGetObjectRange size r) = true := by
  rw [getObjectRange_refines]; rfl

/-- utils.ParseAuthorization: every Authorization header value (whatever removeSpace does) -/
theorem no_panic_parseAuthorization (rs : Bytes → Bytes) (a : Bytes) : noPanic (parseAuthorization rs a) = true := by
  unfold parseAuthorization
  exact noPanic_bind (no_panic_stripLoop rs _ 0 _ (Int.le_refl 0) (by omega)) fun out _ => no_panic_parseAuthParts out

/-- utils.ParsePresignedURIParts: every combination of the six query values -/
theorem no_panic_parsePresigned (q : PresignQuery) (region : Bytes) (passed : Int) :
    noPanic (parsePresigned q region passed) = true := by
  unfold parsePresigned
  refine noPanic_guard fun _ => noPanic_guard fun _ => noPanic_guard fun _ => noPanic_guard fun h => ?_
  have h5 : (splitOn 47 q.cred).length = 5 := Decidable.not_not.mp h
  refine noPanic_idx_bind fun c3 => noPanic_guard fun _ => ?_
  refine noPanic_idx_bind fun c4 => noPanic_guard fun _ => ?_
  refine noPanic_idx_bind fun c1 => noPanic_guard fun _ => ?_
  exact no_panic_presignedTail q _ h5 region passed

/-- VerifyV4Signature: `date[:8]` after a successful time.Parse, every X-Amz-Date value -/
theorem no_panic_v4Date (date credDate : Bytes) : noPanic (v4Date date credDate) = true := by
  unfold v4Date
  refine noPanic_guard fun _ => noPanic_guard fun hp => ?_
  have hlen := Time.parseCompact_length date (by simpa using hp)
  exact noPanic_sliceTo_bind fun d8 => noPanic_guard fun _ => rfl

/-- the fact about time.Parse both callers rely on -/
theorem timeParse_compact_length (s : Bytes) (h : Time.parseCompact s = true) : 8 ≤ s.length :=
  Time.parseCompact_length s h

/-- isPathConfined: the slices of the unescaped X-Amz-Copy-Source -/
theorem no_panic_copySourceConfined (src : Bytes) : noPanic (copySourceConfined src) = true := by
  unfold copySourceConfined
  refine noPanic_ite (fun hi => ?_) fun _ => rfl
  have := versionId_bounds src hi
  exact noPanic_sliceFrom_bind fun v => noPanic_guard fun _ => noPanic_sliceTo_bind fun s => rfl

/-- utils.IsBigDataAction: every path -/
theorem no_panic_bigDataHasKey (path : Bytes) : noPanic (bigDataHasKey path) = true := by
  unfold bigDataHasKey
  exact noPanic_guard fun h => noPanic_idx_bind fun k => rfl

/-- `path[len(path)-1:] == "/" && key[len(key)-1:] != "/"` in the five object handlers: safe for
a non-empty path and key (the route `/:bucket/:key/*` matched: assumption about the router) -/
theorem no_panic_trailingSlashFix (path key : Bytes) (hp : path ≠ []) (hk : key ≠ []) :
    noPanic (trailingSlashFix path key) = true := by
  have hpl : 0 < path.length := List.length_pos_iff.mpr hp
  have hkl : 0 < key.length := List.length_pos_iff.mpr hk
  unfold trailingSlashFix
  exact noPanic_sliceFrom_bind fun pl => noPanic_ite
    (fun _ => noPanic_sliceFrom_bind fun kl => noPanic_ite (fun _ => rfl) fun _ => rfl) fun _ => rfl

/-- the empty path is a panicking input of `path[len(path)-1:]` itself -/
theorem trailingSlashFix_empty_path_panics (key : Bytes) : noPanic (trailingSlashFix [] key) = false := rfl

/-- posix.ListParts paging: every part list, every max-parts (0 and negative included) -/
theorem no_panic_listPartsPage (parts : List Int) (maxParts : Int) : noPanic (listPartsPage parts maxParts) = true := by
  unfold listPartsPage
  refine noPanic_bind (noPanic_ite (fun h => (sliceTo_isOk_iff _ _).mpr (by omega)) fun _ => rfl) fun page _ => ?_
  exact noPanic_bind (noPanic_ite (fun h => (idx_isOk_iff _ _).mpr (by omega)) fun _ => rfl) fun next _ => rfl

/-- ListBuckets: whatever max-buckets value the client sends, the controller either refuses it or
hands posix.ListBuckets a value on which `buckets[len(buckets)-1]` is in range -/
theorem no_panic_listBuckets (q token : Bytes) (names : List Bytes) (n : Int) (h : maxBucketsOf q = some n) :
    noPanic (listBucketsLoop n token names []) = true :=
  no_panic_listBucketsLoop n (maxBucketsOf_range q n h).1 token names []

/-- (the crasher repaired by 3030b05: MaxBuckets = 0 reaching the backend) -/
theorem listBuckets_zero_panics : noPanic (listBucketsLoop 0 [] [[97]] []) = false := by decide +kernel

/-- posix.CompleteMultipartUpload: every part list (empty, unsorted, nil or non-positive or huge
part numbers, nil ETags), whatever is stored -/
theorem no_panic_completeParts (stored : Int → Option (Int × Bytes)) (parts : List CPart) (minPart : Int) :
    noPanic (completeParts stored parts minPart) = true :=
  no_panic_completeLoop stored parts _ minPart parts 0 0 0 (Int.le_refl 0) (by omega)

/-- GetBucketVersioning `vData[0]`: the attribute is written by PutBucketVersioning only, for the
two Status values the controller lets through, as one byte -/
theorem no_panic_versioning_roundtrip (status v : Bytes) (h : versioningAttr status = some v) :
    noPanic (versioningOf v) = true := by
  revert h
  fun_cases versioningAttr status
  case case1 | case2 => intro h; cases h; rfl
  case case3 => intro h; cases h

/-- GetObjectLegalHold `data[0]` on what PutObjectLegalHold stores -/
theorem no_panic_legalHold_roundtrip (status : Bool) : noPanic (legalHoldOf (legalHoldAttr status)) = true := by
  cases status <;> rfl

/-- ValidatePolicyDocument `policyBin[0]`: every body, the empty one included -/
theorem no_panic_policyFirstChar (bin : Bytes) : noPanic (policyFirstCharBad bin) = true := by
  unfold policyFirstCharBad
  exact noPanic_guard fun h => noPanic_idx_bind fun c => rfl

/-- Action.IsValid `a[len(a)-1]`: every action string -/
theorem no_panic_actionIsValid (sup psup : Bytes → Bool) (a : Bytes) : noPanic (actionIsValid sup psup a) = true := by
  unfold actionIsValid
  refine noPanic_guard fun h => noPanic_guard fun _ => ?_
  have hl : 3 ≤ a.length := length_le_of_hasPrefix h
  exact noPanic_idx_bind fun c => noPanic_guard fun _ => rfl

/-- Action.IsObjectAction `a[len(a)-1]`: every action that passed IsValid (the only ones Actions.Add
lets into a statement); the empty action would panic -/
theorem no_panic_isObjectAction_of_valid (sup psup osup opsup : Bytes → Bool) (a : Bytes)
    (h : actionIsValid sup psup a = .ok true) : noPanic (isObjectAction osup opsup a) = true := by
  have hl : 3 ≤ a.length := by
    refine length_le_of_hasPrefix (p := s3ColonLit) fun hp => ?_
    unfold actionIsValid at h
    rw [if_pos hp] at h
    cases h
  unfold isObjectAction
  exact noPanic_guard fun _ => noPanic_idx_bind fun c => noPanic_guard fun _ => rfl

/-- backend.Walk `prefix[:idx]`: never panics and IS the root selection of C07, `Model.Walk.rootOf` -/
theorem walkRoot_refines (pfx : Bytes) : walkRoot pfx = .ok (Vgw.Model.Walk.rootOf pfx) := by
  have hr := lastIndexOf_range [47] pfx
  unfold walkRoot Vgw.Model.Walk.rootOf Vgw.Model.Walk.slash
  rw [lastIndexOf_single] at hr ⊢
  by_cases hc : pfx.contains 47 = true
  · rw [if_pos hc]
    cases h : lastIndexByte 47 pfx with
    | none => rfl
    | some i =>
      cases i with
      | zero => rfl
      | succ k =>
        -- the last "/" stands at k + 1 < len(prefix): `prefix[:k+1]` is in range, and it is `take (k + 1)`
        rw [h] at hr
        have hk : ((k + 1 : Nat) : Int) + 1 ≤ pfx.length := by
          rcases hr with hr | ⟨_, hr⟩
          · cases hr
          · exact hr
        have hpos : ((k + 1 : Nat) : Int) > 0 := by omega
        show (if ((k + 1 : Nat) : Int) > 0 then (sliceTo pfx ((k + 1 : Nat) : Int)).map some else _) = _
        rw [if_pos hpos, sliceTo_ok pfx _ (by omega) (by omega)]
        rfl
  · rw [if_neg hc, lastIndexByte_eq_none 47 pfx (by simpa using hc)]

/-! ## sites with a defect in the code as it is: proved for the repaired variant; for the variant as it
is the exact panic condition, or a condition under which it is safe -/

/-- AclParser `pathParts[1]`: panics exactly on paths without a "/" -/
theorem aclParser_no_panic_iff (path : Bytes) : noPanic (aclParserBucket path) = true ↔ (47 : UInt8) ∈ path :=
  Model.Robust.aclParser_no_panic_iff path

/-- fix 1 (DecodeURL refuses targets that are not in origin form): no request target reaches a panic -/
theorem no_panic_aclParser_fixed (u : Bytes) : noPanic (decodeThenAclParser true u) = true :=
  no_panic_decodeThenAclParser true u (.inl rfl)

/-- DecodeURL + AclParser as they are: safe when the target contains a "/" (and only then, unless DecodeURL refuses the target:
`aclParser_no_panic_iff`) -/
theorem aclParser_asis_partial (u : Bytes) (h : (47 : UInt8) ∈ u) : noPanic (decodeThenAclParser false u) = true :=
  no_panic_decodeThenAclParser false u (.inr h)

/-- fix 2: PutBucketOwnershipControls never panics -/
theorem no_panic_putOwnershipControls_fixed (valid : Bytes → Bool) (rules : List Bytes) :
    noPanic (putOwnershipControls true valid rules) = true := by
  cases rules with
  | nil => rfl
  | cons r t => rw [putOwnershipControls_cons]; rfl

/-- PutBucketOwnershipControls as it is panics exactly when the document has no Rule -/
theorem putOwnershipControls_asis_panics_iff (valid : Bytes → Bool) (rules : List Bytes) :
    noPanic (putOwnershipControls false valid rules) = false ↔ rules = [] := by
  cases rules with
  | nil => exact ⟨fun _ => rfl, fun _ => rfl⟩
  | cons r t => rw [putOwnershipControls_cons]; simp

/-- fix 2 changes nothing else: same answer on every document that has a Rule -/
theorem putOwnershipControls_fix_conservative (valid : Bytes → Bool) (rules : List Bytes) (h : rules ≠ []) :
    putOwnershipControls true valid rules = putOwnershipControls false valid rules := by
  cases rules with
  | nil => exact absurd rfl h
  | cons r t => rw [putOwnershipControls_cons, putOwnershipControls_cons]

/-- fix 4: AccessControlPolicy.Validate never panics -/
theorem no_panic_acpValidate_fixed (grants : List Grant) (owner : Option (Option Bytes)) :
    noPanic (acpValidate true grants owner) = true :=
  no_panic_acpValidate true grants owner (.inl rfl)

/-- AccessControlPolicy.Validate as it is: safe when every Grant has a Grantee -/
theorem acpValidate_asis_partial (grants : List Grant) (owner : Option (Option Bytes))
    (h : ∀ g ∈ grants, g.grantee.isSome = true) : noPanic (acpValidate false grants owner) = true :=
  no_panic_acpValidate false grants owner (.inr h)

/-- fix 5: the PutObjectAcl conversion loop never panics -/
theorem no_panic_putObjectAclGrants_fixed (l : List Grant) : noPanic (putObjectAclGrants true l) = true :=
  (putObjectAclGrants_iff true l).mpr (.inl rfl)

/-- the PutObjectAcl conversion loop as it is returns exactly when every Grant has a Grantee -/
theorem putObjectAclGrants_asis_iff (l : List Grant) :
    noPanic (putObjectAclGrants false l) = true ↔ ∀ g ∈ l, g.grantee.isSome = true := by
  simpa using putObjectAclGrants_iff false l

/-- fix 6: SelectObjectContent's progress test never panics -/
theorem no_panic_selectProgress_fixed (p : Option (Option Bool)) : noPanic (selectProgressEnabled true p) = true := by
  match p with
  | none | some none | some (some _) => rfl

/-- SelectObjectContent's progress test as it is panics exactly on `<RequestProgress>` without `<Enabled>` -/
theorem selectProgress_asis_panics_iff (p : Option (Option Bool)) :
    noPanic (selectProgressEnabled false p) = false ↔ p = some none := by
  match p with
  | none | some none | some (some _) => simp [selectProgressEnabled, deref]

/-- fix 3: ListMultipartUploads paging never panics: every upload list, key-marker position,
max-uploads (0, negative, huge), markers -/
theorem no_panic_listMultipartUploads_fixed (uploads : List Upload) (keyMarkerInd maxUploads : Int)
    (keyMarker uploadIdMarker : Bytes) (h : -1 ≤ keyMarkerInd) :
    noPanic (listMultipartUploadsPage true uploads keyMarkerInd maxUploads keyMarker uploadIdMarker) = true :=
  no_panic_uploadsLoop true uploads maxUploads keyMarker uploadIdMarker _ _ [] (by omega) (.inl rfl)

/-- ListMultipartUploads paging as it is: safe without a key-marker -/
theorem listMultipartUploads_asis_partial (uploads : List Upload) (maxUploads : Int) (uploadIdMarker : Bytes) :
    noPanic (listMultipartUploadsPage false uploads (-1) maxUploads [] uploadIdMarker) = true :=
  no_panic_uploadsLoop false uploads maxUploads [] uploadIdMarker _ _ [] (by omega) (.inr ⟨rfl, rfl⟩)

/-! ## allocation -/

/-- the chunk size the unsigned reader accepts from the wire is within [0, 5 GiB] -/
theorem chunkSize_range (line : Bytes) (n : Int) (h : extractChunkSize line = some n) :
    0 ≤ n ∧ n ≤ maxUnsignedChunkSize := by
  revert h
  fun_cases extractChunkSize line
  case case3 => intro h; cases h; omega
  all_goals intro h; cases h

/-- as it is, the unsigned reader's `make([]byte, chunkSize)` never panics and is bounded by the stated constant 5 GiB -/
theorem alloc_bounded_unsignedChunk (line : Bytes) (n : Int) (arrived : Nat) (h : extractChunkSize line = some n) :
    ∃ m, chunkAlloc false n arrived = .ok m ∧ (m : Int) ≤ maxUnsignedChunkSize := by
  have ⟨h0, h1⟩ := chunkSize_range line n h
  unfold chunkAlloc
  rw [if_neg Bool.false_ne_true, makeBytes_ok n h0 (Int.le_trans h1 (by decide))]
  exact ⟨_, rfl, by omega⟩

/-- with fix 7 the unsigned reader's chunk buffer is bounded by twice the bytes that really arrived (+512), whatever the wire announces -/
theorem alloc_bounded_unsignedChunk_fixed (n : Int) (arrived : Nat) :
    ∃ m, chunkAlloc true n arrived = .ok m ∧ m ≤ 2 * arrived + 512 :=
  ⟨_, rfl, by have := Nat.min_le_left arrived n.toNat; omega⟩

/-- utils.escapePath (runs on the request path before the signature is known): at most three times
the length of the string it escapes -/
theorem alloc_bounded_escapePath (esc : UInt8 → Bool) (s : Bytes) : escapeRequired esc s ≤ 3 * s.length := by
  unfold escapeRequired
  have := List.length_filter_le esc s
  omega

/-- signed chunk reader: the re-assembled header buffer is at most 1024 bytes longer than the bytes read -/
theorem alloc_bounded_chunkHeaderStash (stashLen headerLen n : Nat) (h : stashAlloc stashLen headerLen = some n) :
    n ≤ maxHeaderSize + headerLen := by
  revert h
  fun_cases stashAlloc stashLen headerLen
  case case1 => intro h; cases h
  case case2 => intro h; cases h; omega

/-- SendXMLResponse: at most 4 MiB -/
theorem alloc_bounded_xmlResponse (hdrLen bodyLen n : Nat) (h : xmlResponseAlloc hdrLen bodyLen = some n) :
    n ≤ maxXMLBodyLen := by
  revert h
  fun_cases xmlResponseAlloc hdrLen bodyLen
  case case1 => intro h; cases h
  case case2 => intro h; cases h; omega

/-! ## no spinning: the loop of UnsignedChunkReader.Read makes progress or ends -/

theorem readLine_progress : ∀ (s l r : Bytes), readLine s = some (l, r) → r.length < s.length := by
  intro s
  fun_induction readLine s with
  | case1 => intro l r h; cases h
  | case2 s => intro l r h; cases h; exact Nat.lt_succ_self _
  | case3 c s _ l' r' hs ih => intro l r h; cases h; exact Nat.lt_succ_of_lt (ih l' r' hs)
  | case4 => intro l r h; cases h

/-- every size line that `Read`'s loop accepts consumes at least one byte of the stream: the number
of remaining bytes is a measure of the loop (one extractChunkSize per iteration) -/
theorem no_spin_extractChunkSize (s : Bytes) (n : Int) (r : Bytes) (h : extractChunkSizeOf s = some (n, r)) :
    r.length < s.length := by
  revert h
  fun_cases extractChunkSizeOf s
  case case3 l rest hl m _ => intro h; cases h; exact readLine_progress s l r hl
  all_goals intro h; cases h

/-- where the stream has no further line break — in particular at its clean end, whatever came
before — extractChunkSize returns the error: it does not wait, skip or retry -/
theorem extractChunkSize_at_end (s : Bytes) (h : (10 : UInt8) ∉ s) : extractChunkSizeOf s = none := by
  have : readLine s = none := by
    fun_induction readLine s with
    | case1 | case4 => rfl
    | case2 s => exact absurd (List.mem_cons_self ..) h
    | case3 c s _ l r hs ih => rw [ih fun hm => h (List.mem_cons_of_mem _ hm)] at hs; cases hs
  unfold extractChunkSizeOf
  rw [this]

/-! ## corollaries over the models of other properties -/

/-- the signed aws-chunked reader (Model.ChunkSigned, C12) never panics: arbitrary bytes — any chunk
size token, 2^63 and above included — in arbitrary deliveries (Props.C12.signed_never_panics,
restated here because a panic in the body reader ends the process); tied to
utils.NewSignedChunkReader in-process on boundary chunk sizes and end to end in both signed modes -/
theorem no_panic_signedChunkReader (cfg : Vgw.Model.ChunkSigned.Cfg) (seedSig : Bytes) (ds : List (Bytes × Bool)) :
    (Vgw.Model.ChunkSigned.run cfg seedSig ds).2 ≠ .panic :=
  Vgw.Props.C12.signed_never_panics cfg seedSig ds

/-- the policy resource matcher (Model.Glob, C14: Resources.Match) runs its first loop at most
|s|·(|s|+|p|+1) + |s| + |p| times, whatever the number of `*` in the pattern: an access check cannot
be made to spin by a many-star resource and a long key. (`loopSteps` counts the iterations of
`Model.Glob.loop` with the same tests; the second loop is bounded by |p|.) -/
theorem glob_steps_bounded (p s : Bytes) :
    Vgw.Model.Glob.loopSteps p s 0 0 none 0 (Nat.le_refl 0) ≤ s.length * (s.length + p.length + 1) + s.length + p.length :=
  Vgw.Model.Glob.loopSteps_le p s

/-! ## the property over all modelled sites -/

/-- every modelled defect site, in variant `fixed`, returns normally on every input -/
def NoPanicAtDefectSites (fixed : Bool) : Prop :=
  (∀ u, noPanic (decodeThenAclParser fixed u) = true) ∧
  (∀ valid rules, noPanic (putOwnershipControls fixed valid rules) = true) ∧
  (∀ grants owner, noPanic (acpValidate fixed grants owner) = true) ∧
  (∀ grants, noPanic (putObjectAclGrants fixed grants) = true) ∧
  (∀ p, noPanic (selectProgressEnabled fixed p) = true) ∧
  (∀ uploads kmi mx km um, -1 ≤ kmi → noPanic (listMultipartUploadsPage fixed uploads kmi mx km um) = true)

/-- no allocation is sized by the wire alone: what is allocated for a chunk is bounded by what arrived -/
def AllocTracksArrival (fixed : Bool) : Prop :=
  ∀ line n arrived, extractChunkSize line = some n → ∃ m, chunkAlloc fixed n arrived = .ok m ∧ m ≤ 2 * arrived + 512

/-- C20 on the modelled sites that have a variant (the others are the unconditional theorems above) -/
def C20_full (fixed : Bool) : Prop := NoPanicAtDefectSites fixed ∧ AllocTracksArrival fixed

/-- with the seven proposed repairs the full statement holds -/
theorem C20_fixed : C20_full true :=
  ⟨⟨no_panic_aclParser_fixed, no_panic_putOwnershipControls_fixed, no_panic_acpValidate_fixed,
    no_panic_putObjectAclGrants_fixed, no_panic_selectProgress_fixed,
    fun u k m km um h => no_panic_listMultipartUploads_fixed u k m km um h⟩,
   fun _ n arrived _ => alloc_bounded_unsignedChunk_fixed n arrived⟩

/-! ## non-vacuity (tests on concrete inputs, not proofs of anything general) -/

-- "/b/k?versionId=v" parses into its three parts
example : parseCopySource [47, 98, 47, 107, 63, 118, 101, 114, 115, 105, 111, 110, 73, 100, 61, 118] = .ok (.ok [98] [107] [118]) := by decide +kernel
-- "a=b&c=d"
example : parseObjectTags [97, 61, 98, 38, 99, 61, 100] = .ok (some [([97], [98]), ([99], [100])]) := by decide +kernel
-- "t=a%20b+c" is stored decoded: "a b c"; "t=%zz" is an invalid tag
example : parseObjectTags [116, 61, 97, 37, 50, 48, 98, 43, 99] = .ok (some [([116], [97, 32, 98, 32, 99])]) := by decide +kernel
example : parseObjectTags [116, 61, 37, 122, 122] = .ok none := by decide +kernel
-- "bytes=1-2" of a 10 byte object
example : parseCopySourceRange 10 [98, 121, 116, 101, 115, 61, 49, 45, 50] = .ok (.ok 1 2) := by decide +kernel
-- "20060102T150405Z" parses, "20060102T150405" does not, a fractional second is accepted
example : Time.parseCompact [50, 48, 48, 54, 48, 49, 48, 50, 84, 49, 53, 48, 52, 48, 53, 90] = true := by decide +kernel
example : Time.parseCompact [50, 48, 48, 54, 48, 49, 48, 50, 84, 49, 53, 48, 52, 48, 53] = false := by decide +kernel
example : Time.parseCompact [50, 48, 48, 54, 48, 49, 48, 50, 84, 49, 53, 48, 52, 48, 53, 46, 53, 90] = true := by decide +kernel
-- the date test reaches `date[:8]` and compares
example : v4Date [50, 48, 48, 54, 48, 49, 48, 50, 84, 49, 53, 48, 52, 48, 53, 90] [50, 48, 48, 54, 48, 49, 48, 50] = .ok .proceed := by decide +kernel
-- a key gets its trailing slash back
example : trailingSlashFix [47, 98, 47, 107, 47] [107] = .ok [107, 47] := by decide +kernel
-- one valid rule goes through in both variants; two rules are refused in both
example : putOwnershipControls true (fun _ => true) [[1]] = .ok true := by decide +kernel
example : putOwnershipControls false (fun _ => true) [[1], [2]] = .ok false := by decide +kernel
-- a well-formed ACL validates; a Grant without Grantee is refused by the repaired code
example : acpValidate false [⟨some ⟨canonicalUserLit, [1]⟩, [82, 69, 65, 68]⟩] (some (some [1])) = .ok true := by decide +kernel
example : acpValidate true [⟨none, [82, 69, 65, 68]⟩] (some (some [1])) = .ok false := by decide +kernel
example : putObjectAclGrants true [⟨none, [82, 69, 65, 68]⟩] = .ok none := by decide +kernel
example : selectProgressEnabled false (some (some true)) = .ok true := by decide +kernel
-- paging with a key marker works in the repaired code and reports the last returned upload
example : listMultipartUploadsPage true [⟨[97], [1]⟩, ⟨[98], [2]⟩, ⟨[99], [3]⟩, ⟨[100], [4]⟩] 0 1 [97] [] =
    .ok ⟨[⟨[98], [2]⟩], true, [98], [2]⟩ := by decide +kernel
example : listPartsPage [1, 2, 3] 2 = .ok ([1, 2], true, 2) := by decide +kernel
example : maxBucketsOf [48] = none := by decide +kernel                    -- "0" is refused by the controller
example : maxBucketsOf [53] = some 5 := by decide +kernel
example : completeParts (fun n => if n = 1 then some (3, [7]) else none) [⟨some 1, some [7]⟩] 5 = .ok (.ok 3) := by decide +kernel
example : versioningAttr [69, 110, 97, 98, 108, 101, 100] = some [1] := by decide +kernel
example : extractChunkSize [49, 52, 48, 48, 48, 48, 48, 48, 48] = some 5368709120 := by decide +kernel   -- "140000000"
example : extractChunkSize [49, 52, 48, 48, 48, 48, 48, 48, 49] = none := by decide +kernel              -- one more
example : actionIsValid (fun _ => true) (fun _ => true) [115, 51, 58, 71] = .ok true := by decide +kernel
example : walkRoot [97, 47, 98, 47, 99] = .ok (some [97, 47, 98]) := by decide +kernel
example : escapeRequired (fun c => c = 32) [97, 32, 98] = 5 := by decide +kernel
example : extractChunkSizeOf [53, 13, 10, 104] = some (5, [104]) := by decide +kernel     -- "5\r\nh"
-- "*a*b" on "aaa": at most 3·(3+4+1)+3+4 = 31 iterations
example : Vgw.Model.Glob.loopSteps [42, 97, 42, 98] [97, 97, 97] 0 0 none 0 (Nat.le_refl 0) ≤ 31 := glob_steps_bounded [42, 97, 42, 98] [97, 97, 97]
example : extractChunkSizeOf [] = none := by decide +kernel                                -- clean end of the stream
example : extractChunkSizeOf [13, 10, 53, 13, 10] = none := by decide +kernel              -- an empty line is malformed, not skipped
example : stashAlloc 10 20 = some 30 := by decide +kernel
example : xmlResponseAlloc 38 100 = some 138 := by decide +kernel

end Vgw.Props.C20
