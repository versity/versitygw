/-
  C13 — Range reads return exactly the requested bytes.
  Theorems about `Model.Range.respond` (the model of ParseGetObjectRange + posix.GetObject's
  range handling + the controller's status choice), for every object size and every header.
-/
import Vgw.Lemmas.Range
namespace Vgw.Props.C13
open Vgw Vgw.Model.Range Vgw.Spec.Range

theorem split_wellformed (a b : Bytes) (ha : (61 : UInt8) ∉ a ∧ (45 : UInt8) ∉ a)
    (hb : (61 : UInt8) ∉ b ∧ (45 : UInt8) ∉ b) :
    splitOn 61 (prefixLit ++ a ++ 45 :: b) = [bytesLit, a ++ 45 :: b] ∧
    splitOn 45 (a ++ 45 :: b) = [a, b] := by
  constructor
  · have h61 : (61 : UInt8) ∉ a ++ 45 :: b := by
      rw [List.mem_append, List.mem_cons]
      exact fun h => h.elim ha.1 fun h => h.elim (by decide) hb.1
    show splitOn 61 (bytesLit ++ 61 :: (a ++ 45 :: b)) = _
    rw [splitOn_append 61 bytesLit _ (by simp [bytesLit]), splitOn_of_not_mem 61 _ h61]
  · rw [splitOn_append 45 a b ha.2, splitOn_of_not_mem 45 b hb.2]

theorem prefix_ne_nil (a b : Bytes) : prefixLit ++ a ++ 45 :: b ≠ [] :=
  fun h => nomatch h

/-- **Well-formed closed and open ranges get exactly the prescribed answer**: 416 iff the first
position is at or beyond the end, otherwise 206 with the interval clipped to the object. -/
theorem wellformed_range (size : Int) (a b : Bytes) (first : Nat) (last : Option Nat)
    (ha : IsDigits a first) (hf : (first : Int) ≤ int64Max)
    (hb : (b = [] ∧ last = none) ∨
          (∃ l, IsDigits b l ∧ last = some l ∧ first ≤ l ∧ (l : Int) ≤ int64Max)) :
    respond size (prefixLit ++ a ++ 45 :: b) = prescribed size first last := by
  have hnb : (61 : UInt8) ∉ b ∧ (45 : UInt8) ∉ b := by
    rcases hb with ⟨rfl, _⟩ | ⟨l, hl, _⟩
    · exact ⟨List.not_mem_nil, List.not_mem_nil⟩
    · exact digits_not_mem hl
  obtain ⟨h1, h2⟩ := split_wellformed a b (digits_not_mem ha) hnb
  have hp := parse_of_split (size := size) h1 h2
  rw [parseInt64_digits ha, if_pos hf] at hp
  unfold prescribed
  by_cases hge : (first : Int) ≥ size
  · rw [if_pos hge]
    exact respond_beyond hp hge
  rw [if_neg hge]
  rcases hb with ⟨rfl, rfl⟩ | ⟨l, hl, rfl, hfl, hlm⟩
  · exact respond_open hp hge rfl
  · exact respond_closed hp hge (by rw [parseInt64_digits hl, if_pos hlm])
      (Int.not_lt.mpr (Int.ofNat_le.mpr hfl))

/-- **Reversed ranges are ignored** (whole object, 200), except that a first position at or
beyond the end may already have been answered 416 (grey zone: the statement prescribes both). -/
theorem reversed_range (size : Int) (a b : Bytes) (first l : Nat)
    (ha : IsDigits a first) (hl : IsDigits b l) (hrev : l < first) :
    respond size (prefixLit ++ a ++ 45 :: b) = whole size ∨
    ((first : Int) ≥ size ∧ respond size (prefixLit ++ a ++ 45 :: b) = unsatisfiable) := by
  obtain ⟨h1, h2⟩ := split_wellformed a b (digits_not_mem ha) (digits_not_mem hl)
  have hp := parse_of_split (size := size) h1 h2
  rw [parseInt64_digits ha] at hp
  by_cases hf : (first : Int) ≤ int64Max
  · rw [if_pos hf] at hp
    by_cases hge : (first : Int) ≥ size
    · exact Or.inr ⟨hge, respond_beyond hp hge⟩
    · refine Or.inl (respond_ignored hp hge (parseDigits_digits hl).1 fun e he => ?_)
      rw [parseInt64_digits hl] at he
      split at he
      · exact Option.some.inj he ▸ Int.ofNat_lt.mpr hrev
      · cases he
  · rw [if_neg hf] at hp
    exact Or.inl (respond_of_parse hp)

theorem parse_shape (size : Int) (r : Bytes) :
    parseGetObjectRange size r = ⟨0, size, false, false⟩ ∨
    ∃ a b start, r = prefixLit ++ a ++ 45 :: b ∧ (45 : UInt8) ∉ a ∧ (45 : UInt8) ∉ b ∧
      parseInt64 a = some start ∧ parseGetObjectRange size r = inner size start b := by
  rcases parse_cases size r with hinv | ⟨spec, a, b, start, h1, h2, hpa⟩
  · exact Or.inl hinv
  · obtain ⟨hr, ha45, hb45⟩ := header_of_split h1 h2
    exact Or.inr ⟨a, b, start, hr, ha45, hb45, hpa, by rw [parse_of_split h1 h2, hpa]⟩

theorem respond_of_invalid (size : Int) (r : Bytes)
    (h : parseGetObjectRange size r = ⟨0, size, false, false⟩) : respond size r = whole size :=
  respond_of_parse h

/-- **Everything else is the whole object**: if the answer is not `200 whole object`, then the
header is `bytes=`[+]DIGITS`-`[[+]DIGITS] with first ≤ last, and the answer is the prescribed one.
Hence absent headers, other units, multi-ranges, suffix ranges `-n`, whitespace, garbage and
numbers beyond int64 all yield 200 with the entire object. -/
theorem not_whole_inv (size : Int) (r : Bytes) (h : respond size r ≠ whole size) :
    ∃ a b first, r = prefixLit ++ a ++ 45 :: b ∧ IsPlusDigits a first ∧ (first : Int) ≤ int64Max ∧
      (((first : Int) ≥ size ∧ respond size r = unsatisfiable) ∨
       ((first : Int) < size ∧ b = [] ∧ respond size r = prescribed size first none) ∨
       ((first : Int) < size ∧ ∃ l, IsPlusDigits b l ∧ first ≤ l ∧
          respond size r = prescribed size first (some l))) := by
  rcases parse_cases size r with hinv | ⟨spec, a, b, start, h1, h2, hpa⟩
  · exact absurd (respond_of_invalid size r hinv) h
  obtain ⟨hr, ha45, hb45⟩ := header_of_split h1 h2
  obtain ⟨first, hfa, rfl, hfm⟩ := parseInt64_some_inv hpa ha45
  refine ⟨a, b, first, hr, hfa, hfm, ?_⟩
  have hp := parse_of_split (size := size) h1 h2
  rw [hpa] at hp
  by_cases hge : (first : Int) ≥ size
  · exact Or.inl ⟨hge, respond_beyond hp hge⟩
  have hlt : (first : Int) < size := Int.not_le.mp hge
  by_cases hb : b = []
  · exact Or.inr (Or.inl ⟨hlt, hb, (respond_open hp hge hb).trans (if_neg hge).symm⟩)
  -- the second field parses to a number not below the first, or the range would have been ignored
  obtain ⟨e, hpb, hrev⟩ : ∃ e, parseInt64 b = some e ∧ ¬ e < first :=
    Decidable.by_contra fun hn => h (respond_ignored hp hge hb fun e he =>
      Decidable.by_contra fun hlt => hn ⟨e, he, hlt⟩)
  obtain ⟨l, hlb, rfl, _⟩ := parseInt64_some_inv hpb hb45
  exact Or.inr (Or.inr ⟨hlt, l, hlb, Int.ofNat_le.mp (Int.not_lt.mp hrev),
    (respond_closed hp hge hpb hrev).trans (if_neg hge).symm⟩)

/-- **The body never leaves the object and always agrees with status, Content-Length and
Content-Range** — for every size ≥ 0 and every header string whatsoever. -/
theorem consistent (size : Int) (hs : 0 ≤ size) (r : Bytes) : Consistent size (respond size r) := by
  by_cases h : respond size r = whole size
  · rw [h]; exact Or.inl ⟨rfl, rfl, rfl, rfl, rfl⟩
  · obtain ⟨a, b, first, _, _, _, hcase⟩ := not_whole_inv size r h
    rcases hcase with ⟨_, he⟩ | ⟨_, _, he⟩ | ⟨_, l, _, hfl, he⟩
    · rw [he]; exact Or.inr (Or.inr ⟨rfl, rfl, rfl⟩)
    · rw [he]; exact consistent_prescribed size first none fun _ hl => nomatch hl
    · rw [he]; exact consistent_prescribed size first (some l) fun _ hl => Option.some.inj hl ▸ hfl

/-- The answer's body offset, body length and their sum stay within the int64 range (within [0, size],
in fact): the section reader is never handed a wrapped value. -/
theorem no_overflow (size : Int) (hs : 0 ≤ size) (hmax : size ≤ int64Max) (r : Bytes) :
    let p := respond size r
    0 ≤ p.bodyOff ∧ 0 ≤ p.bodyLen ∧ p.bodyOff + p.bodyLen ≤ int64Max := by
  dsimp only
  rcases consistent size hs r with ⟨_, h1, h2, _⟩ | ⟨_, h1, h2, h3, _⟩ | ⟨h0, _⟩
  · rw [h1, h2, Int.zero_add]
    exact ⟨Int.le_refl 0, hs, hmax⟩
  · exact ⟨h1, Int.le_trans (by decide) h2, Int.le_trans h3 hmax⟩
  · rw [respond_of_status_416 h0]
    decide

/-! Non-vacuity: concrete headers meeting the hypotheses, evaluated by the kernel.
`2` = [50], `4` = [52], `-` = 45, `,` = 44. -/
example : IsDigits [50] 2 := rfl
example : respond 10 (prefixLit ++ [50] ++ 45 :: [52]) = prescribed 10 2 (some 4) :=
  wellformed_range 10 [50] [52] 2 (some 4) rfl (by decide) (Or.inr ⟨4, rfl, rfl, by decide, by decide⟩)
example : respond 10 (prefixLit ++ [50] ++ 45 :: [52]) = ⟨206, 2, 3, 3, some (2, 4, 10)⟩ := by decide +kernel
example : respond 10 (prefixLit ++ [55] ++ 45 :: []) = ⟨206, 7, 3, 3, some (7, 9, 10)⟩ := by decide +kernel
example : respond 10 (prefixLit ++ [49, 48] ++ 45 :: []) = unsatisfiable := by decide +kernel
example : respond 0 (prefixLit ++ [48] ++ 45 :: [48]) = unsatisfiable := by decide +kernel
example : respond 10 (prefixLit ++ [] ++ 45 :: [51]) = whole 10 := by decide +kernel       -- bytes=-3
example : respond 10 (prefixLit ++ [49] ++ 45 :: [50, 44, 52, 45, 53]) = whole 10 := by decide +kernel  -- 1-2,4-5
example : respond 10 (prefixLit ++ [53] ++ 45 :: [50]) = whole 10 := by decide +kernel     -- bytes=5-2
example : respond 10 [103, 97, 114] = whole 10 := by decide +kernel                         -- gar

end Vgw.Props.C13
