/-
  C15 — Read-only mode admits no mutation.
  Theorems over `Model.Gw.step`, for every state, caller and request of the modelled S3 API.
-/
import Vgw.Lemmas.GwStep
namespace Vgw.Props.C15
open Vgw Vgw.Model.Gw

/-- a write permission is always refused under the read-only switch, before the root/admin
shortcut (auth.VerifyAccess) -/
theorem verifyAccess_readonly_write (cfg : Cfg) (h : cfg.readonly = true) (b : Bucket) (w : Who)
    (perm : Perm) (hp : perm.isWrite = true) (act obj : Bytes) :
    verifyAccess cfg b w perm act obj = some "AccessDenied" :=
  Model.Gw.verifyAccess_readonly_write h hp

theorem batch_readonly (cfg : Cfg) (h : cfg.readonly = true) (bk : Bucket) (w : Who) (keys : List (Bytes × Bytes)) (act : Bytes) :
    ((if keys.isEmpty then [[]] else keys.map (·.1)).findSome? fun k => verifyAccess cfg bk w .write act k)
      = some "AccessDenied" :=
  Model.Gw.batch_readonly h

theorem guard_some (e : String) (s : State) (k : Unit → State × Resp) : guarded (some e) s k = (s, errR e) := rfl

theorem withBucket_fst (s : State) (b : Bytes) (k : Bucket → State × Resp)
    (hk : ∀ bk, (k bk).1 = s) : (withBucket s b k).1 = s :=
  Model.Gw.withBucket_fst hk

theorem guarded_fst (c : Option String) (s : State) (k : Unit → State × Resp)
    (hk : c = none → (k ()).1 = s) : (guarded c s k).1 = s :=
  Model.Gw.guarded_fst hk

theorem withLockedVersion_fst (cfg : Cfg) (s : State) (bk : Bucket) (k vid : Bytes)
    (f : Ver → List Ver → List Ver → State × Resp) (hf : ∀ v r p, (f v r p).1 = s) :
    (withLockedVersion cfg s bk k vid f).1 = s :=
  Model.Gw.withLockedVersion_fst hf

/-- discharges `(…).1 = s` for a handler body under the read-only switch: peel `withBucket` /
`guarded`, refute a write guard that claims to have passed, split the remaining reads -/
macro "ro_auto" cfg:ident h:ident : tactic => `(tactic| (
  repeat (first
    | rfl
    | (apply withBucket_fst; intro _)
    | (apply withLockedVersion_fst; intro _ _ _)
    | (apply guarded_fst; intro hnone;
       first
         | (rw [verifyAccess_readonly_write $cfg $h _ _ _ rfl] at hnone; cases hnone; done)
         | (rw [batch_readonly $cfg $h] at hnone; cases hnone; done)
         | (simp [$h:ident] at hnone; done)
         | skip)
    | split)))

/-- **No request changes anything when the gateway runs read-only** — whoever sends it (root and
admins included), whatever the state, for every operation of the model. -/
theorem readonly_no_mutation (cfg : Cfg) (h : cfg.readonly = true) (s : State) (r : Req) :
    (step cfg s r).1 = s := by
  unfold step
  split
  · rfl
  · rename_i w _
    rw [finish_fst]
    cases hm : r.op.reads
    · exact (handle_readonly_refused h s w r.now r.op hm).1
    · exact handle_read_fst cfg s w r.now r.op hm

/-- the operations that only read -/
def Op.isRead : Op → Bool
  | .headBucket .. | .listBuckets .. | .getBucketPolicy .. | .getBucketAcl .. | .getBucketTagging .. | .getOwnership ..
  | .getVersioning .. | .getObject .. | .headObject .. | .getObjectTagging .. | .listVersions .. | .getLockConfig ..
  | .getRetention .. | .getLegalHold .. | .listParts .. | .listUploads .. => true
  | _ => false

/-- read permissions are decided identically with and without the switch -/
theorem verifyAccess_readonly_read (cfg : Cfg) (ro : Bool) (b : Bucket) (w : Who) (perm : Perm)
    (hp : perm.isWrite = false) (act obj : Bytes) :
    verifyAccess { cfg with readonly := ro } b w perm act obj = verifyAccess cfg b w perm act obj := by
  simp [verifyAccess, hp]

/-- **Read requests keep working**: a reading operation is answered exactly as it would be
without the read-only switch. -/
theorem readonly_reads_unaffected (cfg : Cfg) (s : State) (c : Caller) (now : Int) (op : Op)
    (hr : Op.isRead op = true) :
    step { cfg with readonly := true } s ⟨c, op, now⟩ = step cfg s ⟨c, op, now⟩ := by
  have hres : resolve { cfg with readonly := true } s c = resolve cfg s c := by
    cases c <;> rfl
  simp only [step, hres]
  cases resolve cfg s c with
  | none => rfl
  | some w =>
    refine congrArg (finish cfg) ?_
    -- `rfl` is ListBuckets, which has no gate
    cases op <;> cases hr <;> first | exact gated_congr fun bk => verifyAccess_readonly_read cfg true bk w _ rfl _ _ | rfl

theorem withBucket_code (s : State) (b : Bytes) (k : Bucket → State × Resp)
    (hk : ∀ bk, (k bk).2.code ≠ "") : (withBucket s b k).2.code ≠ "" := by
  unfold withBucket; split
  · exact errR_code_ne _
  · exact hk _

/-- **Every mutating request is refused** (never answered with success) in read-only mode. -/
theorem readonly_refuses_mutations (cfg : Cfg) (h : cfg.readonly = true) (s : State) (c : Caller)
    (now : Int) (op : Op) (hw : Op.isRead op = false) :
    (step cfg s ⟨c, op, now⟩).2.code ≠ "" := by
  simp only [step]
  cases resolve cfg s c with
  | none => exact errR_code_ne _
  | some w =>
    exact (handle_readonly_refused h s w now op hw).2

/-! Non-vacuity: a concrete state in which the same request succeeds read-write and is refused
read-only. -/
def demoBucket : Bucket := { name := [98], acl := ⟨[114], [⟨[114], .fullControl, false⟩]⟩ }
def demoState : State := { buckets := [demoBucket] }
def demoReq : Req := ⟨.root, .putBucketTagging [98] [([97], [98])], 0⟩
example : (step { rootAccess := [114] } demoState demoReq).1 ≠ demoState := by decide
example : (step { rootAccess := [114], readonly := true } demoState demoReq) = (demoState, errR "AccessDenied") := rfl

end Vgw.Props.C15
