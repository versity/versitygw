/-
  C18 — the S3-proxy backend is transparent: theorems about the translation layer
  (backend/s3proxy/s3.go) over the table REGENERATED from the source (`Vgw.Gen.ProxyFacts`).
  For every proxied method, every property-relevant field of EVERY request reaches the SDK call and
  every relevant field of EVERY backend answer reaches the client — outside the drops listed in
  `Model.Proxy.lossyReq` (the list is exact: a new drop, or a repaired one, breaks the build; the
  full statement for requests is refuted in Open/C18.lean). Errors keep code, message and status; a
  failed call never makes a method panic; the gateway ACL kept in a reserved bucket tag round-trips
  and stays apart from the client's tags.

  Facts about the WHOLE generated table are theorems, proved by evaluation; the `example`s at the end
  evaluate single rows and single runs, as tests.
-/
import Vgw.Lemmas.Proxy
import Vgw.Lemmas.ProxyAcl
namespace Vgw.Props.C18
open Vgw Vgw.Gen.ProxyFacts Vgw.Model.Proxy Vgw.Lemmas.Proxy Vgw.Lemmas.ProxyAcl

/-- the method of the generated table that is named `n` -/
def look (n : String) : Option Method := methods.find? (fun m => m.name == n)

/-- decidable form of `ReqPreserved` (`reqOk_sound`; exact: `Open.C18.lossy_entry_is_lost`) -/
def reqOk (e : String × String × String) : Bool :=
  match look e.1 with
  | none => false
  | some M => preservedReq M e.2.1 e.2.2

/-- decidable form of `RespCopied` (`respOk_sound`; exact: `Open.C18.dropped_entry_is_lost`) -/
def respOk (e : String × String × String) : Bool :=
  match look e.1 with
  | none => false
  | some M => copiedResp M e.2.1 e.2.2

/-- "request field `e.2.1` of method `e.1` reaches SDK input field `e.2.2`", for every request -/
def ReqPreserved (e : String × String × String) : Prop :=
  ∃ M c, M ∈ methods ∧ M.name = e.1 ∧ primaryCall M = some c ∧
    ∀ (derive : String → Fields → Val) (r : Fields), wire (sdkInput M c derive r e.2.2) = wire (r e.2.1)

/-- "SDK output field `e.2.1` of method `e.1` reaches result field `e.2.2`", for every answer -/
def RespCopied (e : String × String × String) : Prop :=
  ∃ M, M ∈ methods ∧ M.name = e.1 ∧
    ∀ (derive : String → Fields → Val) (o : Fields), gwResult M derive o e.2.2 = o e.2.1

theorem look_some {n : String} {M : Method} (h : look n = some M) : M ∈ methods ∧ M.name = n :=
  find?_key_some (key := Method.name) h

theorem reqOk_sound (e : String × String × String) (h : reqOk e = true) : ReqPreserved e := by
  unfold reqOk at h
  split at h
  · nomatch h
  · rename_i M hl
    obtain ⟨c, hc, hall⟩ := preservedReq_sound M _ _ h
    exact ⟨M, c, (look_some hl).1, (look_some hl).2, hc, hall⟩

theorem respOk_sound (e : String × String × String) (h : respOk e = true) : RespCopied e := by
  unfold respOk at h
  split at h
  · nomatch h
  · rename_i M hl
    exact ⟨M, (look_some hl).1, (look_some hl).2, copiedResp_sound M _ _ h⟩

/-! ## the specification tables against the regenerated tables -/

/-- every relevant request field of a struct-typed request is one the front end really fills in -/
theorem relevantReq_exposed :
    relevantReq.all (fun e =>
      match look e.1, frontendSets.find? (fun p => p.1 == e.1) with
      | some M, some p => M.reqKind != "struct" || p.2.contains e.2.1
      | _, _ => false) = true := by decide +kernel

/-- … and a field of the method's request type / one of its parameters -/
theorem relevantReq_wellformed :
    relevantReq.all (fun e => match look e.1 with
      | some M => M.reqFields.contains e.2.1
      | none => false) = true := by decide +kernel

/-- the relevant request fields the table does NOT certify are exactly `lossyReq` -/
theorem lossyReq_exact :
    (relevantReq.filter (fun e => !reqOk e)).map (fun e => (e.1, e.2.1)) = lossyReq := by decide +kernel

/-- the relevant output fields the table does NOT certify are exactly `droppedResp` -/
theorem droppedResp_exact :
    (relevantResp.filter (fun e => !respOk e)).map (fun e => (e.1, e.2.1)) = droppedResp := by decide +kernel

/-! ## proxy_fields_preserved -/

/-- FULL statement (its request half is false: Open/C18.lean). -/
def proxy_fields_preserved_full : Prop :=
  (∀ e ∈ relevantReq, ReqPreserved e) ∧ (∀ e ∈ relevantResp, RespCopied e)

theorem req_table_certified : relevantReq.all (fun e => lossyReq.contains (e.1, e.2.1) || reqOk e) = true :=
  certified_of_rejected lossyReq_exact
theorem resp_table_certified : relevantResp.all (fun e => droppedResp.contains (e.1, e.2.1) || respOk e) = true :=
  certified_of_rejected droppedResp_exact

/-- For every proxied method, every request r and every backend answer o: the SDK input agrees
with r on every relevant request field, and the gateway's result agrees with o on every relevant
output field — outside the listed drops. -/
theorem proxy_fields_preserved_partial :
    (∀ e ∈ relevantReq, (e.1, e.2.1) ∉ lossyReq → ReqPreserved e) ∧
    (∀ e ∈ relevantResp, (e.1, e.2.1) ∉ droppedResp → RespCopied e) :=
  ⟨fun e he hl => reqOk_sound e (ok_of_not_rejected lossyReq_exact he hl),
   fun e he hl => respOk_sound e (ok_of_not_rejected droppedResp_exact he hl)⟩

/-- FULL for answers: every property-relevant field of every backend answer reaches the result. -/
theorem proxy_resp_fields_preserved : ∀ e ∈ relevantResp, RespCopied e :=
  fun e he => proxy_fields_preserved_partial.2 e he List.not_mem_nil

/-- The limits a client may set to 0 arrive at the backend as 0 (they were turned into "absent",
i.e. the endpoint's default of 1000, until the normalisations were removed from s3.go): each row is
a relevant one and passes `reqOk`, so the value arrives by `reqOk_sound`. -/
theorem zero_limits_reach_backend :
    [("ListObjects", "MaxKeys", "MaxKeys"), ("ListObjectsV2", "MaxKeys", "MaxKeys"),
     ("ListObjectVersions", "MaxKeys", "MaxKeys"), ("ListParts", "MaxParts", "MaxParts"),
     ("GetObjectAttributes", "MaxParts", "MaxParts"), ("ListMultipartUploads", "MaxUploads", "MaxUploads"),
     ("CompleteMultipartUpload", "MpuObjectSize", "MpuObjectSize")].all
      (fun e => relevantReq.contains e && reqOk e) = true := by decide +kernel

/-- The request half of `proxy_fields_preserved_partial` written out: for every request r, the backend
request (`sdkInput` of the method's primary call) agrees with r on the relevant fields. -/
theorem backend_request_agrees (m : String) (f sdk : String) (he : (m, f, sdk) ∈ relevantReq)
    (hl : (m, f) ∉ lossyReq) :
    ∃ M c, M ∈ methods ∧ M.name = m ∧ primaryCall M = some c ∧
      ∀ derive r, wire (sdkInput M c derive r sdk) = wire (r f) :=
  proxy_fields_preserved_partial.1 (m, f, sdk) he hl

/-- `0 → absent` is harmless where the front end cannot produce 0, a transcribed faithful
computation is not a loss, an empty body replaced by an empty body neither: the remaining
`lossyReq` entries are the findings. -/
def lossyReqFindings : List (String × String) :=
  lossyReq.filter (fun e => !zeroUnreachable.contains e && !faithfulDerivation.contains e && !emptyBodyRewrite.contains e)

/-- the argued rewrites are exactly what the regenerated table reports as conditional writes -/
theorem emptyBodyRewrite_exact :
    (methods.flatMap (fun m => m.condWrites.map (fun f => (m.name, f)))).all (fun e => emptyBodyRewrite.contains e) = true ∧
    emptyBodyRewrite.all (fun e => match look e.1 with
      | some M => M.condWrites.contains e.2
      | none => false) = true := by decide +kernel

theorem lossyReqFindings_eq : lossyReqFindings = [
    ("ListBuckets", "Owner"), ("ListBuckets", "IsAdmin"),
    ("PutObject", "Expires"), ("PutObject", "ObjectLockMode"), ("PutObject", "ObjectLockRetainUntilDate"),
    ("PutObject", "ObjectLockLegalHoldStatus"), ("CopyObject", "Expires"),
    ("CreateMultipartUpload", "Expires")] := by decide +kernel

/-- `PutObjectTagging`: the TagSet handed to the SDK holds exactly the entries of the tag map. -/
theorem tagset_faithful (tags : List (String × String)) : toTagSet tags = tags := List.map_id tags

/-! ## errors -/

/-- the transcription of `handleError` was made from the shape the extractor sees today -/
theorem handleError_shape : Vgw.Gen.ProxyFacts.handleError = handleErrorShape := rfl

/-- Code, message and HTTP status of an API error answered by the backend survive `handleError`. -/
theorem error_mapping_preserves (code msg : String) (status : Nat) :
    Model.Proxy.handleError (.api code msg (some status)) = .api code msg status := rfl

/-- …and nothing else is turned into an API error -/
theorem error_mapping_only_api (e : SdkErr) (code desc : String) (st : Nat)
    (h : Model.Proxy.handleError e = .api code desc st) :
    ∃ o, e = .api code desc o ∧ (o = some st ∨ (o = none ∧ st = 0)) := by
  match e, h with
  | .api _ _ (some _), h => cases h; exact ⟨_, rfl, Or.inl rfl⟩
  | .api _ _ none, h => cases h; exact ⟨_, rfl, Or.inr ⟨rfl, rfl⟩⟩

/-- Every method that calls the SDK returns the SDK's errors through `handleError`; the only other
error results are the two `fmt.Errorf` of ListParts (unparsable part-number markers), the errors
the three bucket tagging methods pass on from their helper `reservedTags` / from
`PutBucketTagging` (which went through `handleError` there), and those of the two admin-only calls
that do not go through the SDK. -/
theorem errors_leave_through_handleError :
    methods.all (fun m => m.errWrapped) = true ∧
    (methods.filter (fun m => !m.errOther.isEmpty)).map (fun m => m.name) =
      ["ListParts", "GetBucketTagging", "PutBucketTagging", "DeleteBucketTagging", "ChangeBucketOwner",
       "ListBucketsAndOwners"] := by decide +kernel

/-- `GetBucketAcl` alone answers success for some backend errors (no tag set = empty ACL). -/
theorem swallowed_errors :
    (methods.filter (fun m => !m.swallows.isEmpty)).map (fun m => (m.name, m.swallows)) =
      [("GetBucketAcl", ["NoSuchTagSet", "NotImplemented"])] := by decide +kernel

/-! ## panics -/

/-- FULL statement (false: Open/C18.lean): no backend answer makes a proxied method panic. -/
def no_panic_full : Prop :=
  ∀ M ∈ methods, ∀ (failed : Bool) (present : String → Bool), panics M failed present = false

/-- A method does not panic when the call succeeded and the answer carries every member the
method dereferences, or when the call failed and the method tests the error first. -/
theorem no_panic_partial (M : Method) (failed : Bool) (present : String → Bool)
    (h1 : failed = true → M.useBeforeErrCheck = false)
    (h2 : failed = false → ∀ p ∈ M.derefUnguarded, present p = true) :
    panics M failed present = false := by
  unfold panics
  cases failed with
  | true => simp [h1 rfl]
  | false =>
    simp only [Bool.false_and, Bool.not_false, Bool.true_and, Bool.false_or]
    rw [List.any_eq_false]
    intro p hp
    simp [h2 rfl p hp]

/-- no method reads the output before testing the error (GetBucketVersioning and
GetObjectAttributes did, until s3.go tested the error first) -/
theorem use_before_error_check :
    (methods.filter (fun m => m.useBeforeErrCheck)).map (fun m => m.name) = [] := by decide +kernel

/-- FULL: a failed SDK call never makes a proxied method panic, whatever the method. -/
theorem no_panic_on_error (M : Method) (hM : M ∈ methods) (present : String → Bool) :
    panics M true present = false :=
  have h : ¬ M.useBeforeErrCheck = true :=
    List.filter_eq_nil_iff.mp (List.map_eq_nil_iff.mp use_before_error_check) M hM
  no_panic_partial M true present (fun _ => Bool.eq_false_iff.mpr h) (fun hf => nomatch hf)

/-- ListMultipartUploads and ListParts translate every answer, however sparse, without a panic
(their dereferences of optional members were unguarded until they went through nil-tolerant
getters). -/
theorem listings_never_panic (failed : Bool) (present : String → Bool) :
    panics mListMultipartUploads failed present = false ∧ panics mListParts failed present = false :=
  ⟨no_panic_partial _ _ _ (fun _ => rfl) (fun _ _ hp => nomatch hp),
   no_panic_partial _ _ _ (fun _ => rfl) (fun _ _ hp => nomatch hp)⟩

/-! ## the ACL in a reserved bucket tag -/

/-- What `PutBucketAcl` stored is what `GetBucketAcl` reads, for every ACL byte string (the JSON
document the front end marshals: `json.Marshal`/`Unmarshal` of `auth.ACL` are outside the proxy;
ASSUMPTION stated for the end-to-end reading: the front end's `ParseACL ∘ json.Marshal` is the
identity on ACLs — the harness checks it on every ACL it generates). -/
theorem acl_tag_roundtrip (store : Option Tags) (acl : Bytes) (store' : Tags)
    (h : putBucketAcl store acl = .ok store') : getBucketAcl (some store') = .ok acl := by
  cases store with
  | none => nomatch h
  | some tags =>
    obtain ⟨-, rfl⟩ := endpointPutTags_ok_iff.mp h
    unfold getBucketAcl
    simp only [find_setTag, b64_roundtrip]

/-- the same for the tag written by `CreateBucket` -/
theorem acl_tag_roundtrip_create (acl : Bytes) (store' : Tags)
    (h : createBucketTags acl = .ok store') : getBucketAcl (some store') = .ok acl :=
  acl_tag_roundtrip (some []) acl store' h

/-- `PutBucketAcl` leaves every other tag of the bucket as it was. -/
theorem acl_put_keeps_other_tags (tags : Tags) (acl : Bytes) (store' : Tags)
    (h : putBucketAcl (some tags) acl = .ok store') :
    store'.filter (fun kv => kv.1 != aclKeyB) = tags.filter (fun kv => kv.1 != aclKeyB) := by
  obtain ⟨-, rfl⟩ := endpointPutTags_ok_iff.mp h
  exact filter_setTag _ _ _

/-- FULL statement (false: Open/C18.lean): every ACL can be stored. -/
def acl_fits_full : Prop := ∀ acl : Bytes, ∃ t, createBucketTags acl = .ok t

/-- An ACL document of at most 192 bytes fits the 256-character tag value. -/
theorem acl_fits_partial (acl : Bytes) (h : acl.length ≤ 192) : ∃ t, createBucketTags acl = .ok t := by
  refine ⟨_, endpointPutTags_ok_iff.mpr ⟨fun kv hkv => ?_, rfl⟩⟩
  rw [List.mem_singleton.mp hkv, b64Encode_length]
  unfold maxTagValue; omega

/-- …and a longer one never does: the bucket is created at the endpoint and then refused its ACL -/
theorem acl_too_long_refused (acl : Bytes) (h : acl.length > 192) : createBucketTags acl = .error .invalidTag := by
  refine endpointPutTags_error (kv := (aclKeyB, b64Encode acl)) (List.mem_singleton.mpr rfl) ?_
  rw [b64Encode_length]
  unfold maxTagValue; omega

/-! ## client tagging calls and the reserved tag -/

/-- what `*S3Proxy` leaves to `BackendUnsupported` is exactly this list (regenerated):
Put/Get/DeleteBucketTagging are not in it, i.e. the proxy defines the three client tagging calls -/
theorem client_tagging_implemented :
    unimplemented = ["PutBucketCors", "GetBucketCors", "DeleteBucketCors", "GetObjectAcl", "PutObjectAcl",
      "RestoreObject", "SelectObjectContent"] := rfl

/-- the reserved tag is only named by the three ACL-carrying methods and by PutBucketTagging, which
refuses it as a client key (GetBucketTagging / DeleteBucketTagging see it through the helper
`reservedTags`) (regenerated) -/
theorem aclKey_users : (methods.filter (fun m => m.usesAclKey)).map (fun m => m.name) =
    ["CreateBucket", "GetBucketAcl", "PutBucketAcl", "PutBucketTagging"] := by decide +kernel

/-- Client Put/Get/DeleteBucketTagging through the proxy — as the code is (`impl = true`) and as it
was before the methods existed (`impl = false`: NotImplemented) — neither change nor reveal the
reserved tag: the stored ACL reads back the same, and the answer does not mention it. -/
theorem acl_tag_isolated (impl : Bool) (store : Option Tags) (op : TagOp) :
    getBucketAcl (clientTagging impl store op).2 = getBucketAcl store ∧
    (∀ vis, (clientTagging impl store op).1 = .ok (some vis) → ∀ kv ∈ vis, kv.1 ≠ aclKeyB) :=
  (clientTagging_isolates impl store op).imp getBucketAcl_congr id

/-- What a client put is what it gets back (the other half of
transparency for bucket tags), whatever the reserved tag holds. -/
theorem fixed_tagging_transparent (store : Option Tags) (new : Tags) (store' : Option Tags)
    (hne : new ≠ []) (hk : ∀ kv ∈ new, kv.1 ≠ aclKeyB)
    (h : clientTagging true store (.put new) = (.ok none, store')) :
    (clientTagging true store' .get).1 = .ok (some new) := by
  rw [clientTagging_put store hk] at h
  split at h
  · nomatch h
  · rename_i t hput
    obtain ⟨-, rfl⟩ := endpointPutTags_ok_iff.mp hput
    obtain rfl := (Prod.mk.inj h).2
    have hvis : (new ++ (store.getD []).filter (fun kv => kv.1 == aclKeyB)).filter (fun kv => kv.1 != aclKeyB) = new := by
      rw [List.filter_append, List.filter_filter, List.filter_eq_self.mpr, List.filter_eq_nil_iff.mpr, List.append_nil]
      · intro kv _; simp
      · intro kv hkv; simpa using hk kv hkv
    rw [clientTagging_get, hvis, if_neg (fun h => hne (List.isEmpty_iff.mp h))]

/-- Bucket tagging through the proxy is transparent: a tag set the endpoint accepts directly
(every value within the limit) and that does not use the reserved key is accepted through the
proxy, and reads back as it was put — whatever ACL the gateway keeps in the same tag store
(`hstore`: what is stored was accepted by the endpoint before). -/
theorem bucket_tagging_transparent (store : Option Tags) (new : Tags) (hne : new ≠ [])
    (hdirect : endpointPutTags new = .ok new) (hk : ∀ kv ∈ new, kv.1 ≠ aclKeyB)
    (hstore : ∀ kv ∈ store.getD [], kv.2.length ≤ maxTagValue) :
    ∃ store', clientTagging true store (.put new) = (.ok none, store') ∧
      (clientTagging true store' .get).1 = .ok (some new) := by
  have hput : endpointPutTags (new ++ (store.getD []).filter (fun kv => kv.1 == aclKeyB)) = .ok _ :=
    endpointPutTags_ok_iff.mpr ⟨fun kv hkv => (List.mem_append.mp hkv).elim
      ((endpointPutTags_ok_iff.mp hdirect).1 kv) (fun hkv => hstore kv (List.mem_filter.mp hkv).1), rfl⟩
  have hres := clientTagging_put store hk
  rw [hput] at hres
  exact ⟨_, hres, fixed_tagging_transparent store new _ hne hk hres⟩

/-! ## non-vacuity (tests over samples, labelled as such) -/

-- the table is not empty and the criteria accept/reject concrete entries
example : methods.length = 45 := by decide +kernel
example : reqOk ("PutObject", "ContentLanguage", "ContentLanguage") = true := by decide +kernel
example : reqOk ("PutObject", "Expires", "Expires") = false := by decide +kernel
example : respOk ("ListObjectsV2", "NextContinuationToken", "NextContinuationToken") = true := by decide +kernel
example : respOk ("ListObjectsV2", "StartAfter", "StartAfter") = true := by decide +kernel
example : copiedResp mPutObject "ETag" "VersionID" = false := by decide +kernel
-- max-keys=0 arrives as 0
example : (primaryCall mListObjectsV2).map (fun c => sdkInput mListObjectsV2 c (fun _ _ => none)
    (fun f => if f = "MaxKeys" then some "0" else none) "MaxKeys") = some (some "0") := by decide +kernel
-- a request whose relevant field really has a value: the SDK input carries it
example : (primaryCall mPutObject).map (fun c => sdkInput mPutObject c (fun _ _ => none)
    (fun f => if f = "ContentLanguage" then some "en" else none) "ContentLanguage") = some (some "en") := by decide +kernel
example : gwResult mPutObject (fun _ _ => none) (fun f => if f = "ETag" then some "\"abc\"" else none) "ETag" = some "\"abc\"" := by decide +kernel
example : Model.Proxy.handleError (.api "NoSuchKey" "The specified key does not exist." (some 404)) = .api "NoSuchKey" "The specified key does not exist." 404 := rfl
-- ACL round trip on a concrete small ACL document `{"Owner":"a"}` (bytes written literally)
example : (match putBucketAcl (some [("team", [120])]) [123, 34, 79, 119, 110, 101, 114, 34, 58, 34, 97, 34, 125] with
    | .ok t => t == [("team", [120]), (aclKeyB, b64Encode [123, 34, 79, 119, 110, 101, 114, 34, 58, 34, 97, 34, 125])]
    | .error _ => false) = true := by decide +kernel
example : (clientTagging true (some [(aclKeyB, [65, 65, 65, 65])]) (.put [("team", [120])])).2 =
    some [("team", [120]), (aclKeyB, [65, 65, 65, 65])] := by decide +kernel
example : panics mHeadObject true (fun _ => false) = false := by decide +kernel

end Vgw.Props.C18
