/-
  C16 (bucket names) — the executable model of utils.IsValidBucketName accepts exactly the names
  the declarative specification `Spec.BucketName.Valid` allows.
-/
import Vgw.Lemmas.BucketName
import Vgw.Spec.BucketName
namespace Vgw.Props.C16Name
open Vgw Vgw.Model.BucketName Vgw.Spec.BucketName

theorem isLowerAlnum_iff (c : UInt8) : isLowerAlnum c = true ↔ alnum c := by
  simp only [isLowerAlnum, alnum, Bool.or_eq_true, Bool.and_eq_true, decide_eq_true_eq]

theorem isNameChar_iff (c : UInt8) : isNameChar c = true ↔ allowed c := by
  simp [isNameChar, allowed, isLowerAlnum_iff, or_assoc]

theorem alnum_allowed {c : UInt8} (h : alnum c) : allowed c := Or.inl h

theorem isDigit_ne_dot {c : UInt8} (h : isDigit c = true) : c ≠ 46 := by
  intro e; subst e; revert h; decide

/-! ### `^[a-z0-9][a-z0-9.-]+[a-z0-9]$` -/

theorem matchesNameRe_iff_shape (s : Bytes) :
    matchesNameRe s = true ↔
      ∃ c m l, s = c :: (m ++ [l]) ∧ alnum c ∧ alnum l ∧ m ≠ [] ∧ ∀ x ∈ m, allowed x := by
  have hshape : ∀ c l m, matchesNameRe (c :: (m ++ [l])) = true ↔
      alnum c ∧ alnum l ∧ m ≠ [] ∧ ∀ x ∈ m, allowed x := by
    intro c l m
    rw [matchesNameRe_concat]
    simp only [Bool.and_eq_true, isLowerAlnum_iff, List.all_eq_true, isNameChar_iff, Bool.not_eq_true',
      List.isEmpty_eq_false_iff, and_assoc]
  constructor
  · intro h
    cases s with
    | nil => cases h
    | cons c rest =>
      cases hl : rest.getLast? with
      | none => rw [List.getLast?_eq_none_iff.mp hl, matchesNameRe_singleton] at h; cases h
      | some l =>
        obtain ⟨m, rfl⟩ := List.getLast?_eq_some_iff.mp hl
        exact ⟨c, m, l, rfl, (hshape c l m).mp h⟩
  · rintro ⟨c, m, l, rfl, h⟩
    exact (hshape c l m).mpr h

/-- The first regular expression in declarative form (it forces length ≥ 3 by itself). -/
theorem matchesNameRe_iff (s : Bytes) :
    matchesNameRe s = true ↔
      3 ≤ s.length ∧ (∀ c ∈ s, allowed c) ∧ (∃ c, s.head? = some c ∧ alnum c) ∧
        (∃ c, s.getLast? = some c ∧ alnum c) := by
  rw [matchesNameRe_iff_shape]
  constructor
  · rintro ⟨c, m, l, rfl, hc, hl, hm, hall⟩
    refine ⟨?_, ?_, ⟨c, rfl, hc⟩, ⟨l, ?_, hl⟩⟩
    · cases m with
      | nil => exact absurd rfl hm
      | cons x xs => simp
    · intro x hx
      simp only [List.mem_cons, List.mem_append, List.not_mem_nil, or_false] at hx
      rcases hx with rfl | hx | rfl
      · exact alnum_allowed hc
      · exact hall x hx
      · exact alnum_allowed hl
    · rw [← List.cons_append, List.getLast?_concat]
  · rintro ⟨hlen, hall, ⟨c, hhead, hc⟩, ⟨l, hlast, hl⟩⟩
    obtain ⟨ys, rfl⟩ := List.getLast?_eq_some_iff.mp hlast
    cases ys with
    | nil => simp at hlen
    | cons y m =>
      simp only [List.cons_append, List.head?_cons, Option.some.injEq] at hhead
      subst hhead
      refine ⟨y, m, l, rfl, hc, hl, ?_, ?_⟩
      · intro e; subst e; simp at hlen
      · intro x hx
        exact hall x (by simp [hx])

theorem hasDoubleDot_cons_cons (a b : UInt8) (r : Bytes) :
    hasDoubleDot (a :: b :: r) = ((a == 46 && b == 46) || hasDoubleDot (b :: r)) := by
  by_cases h : a = 46 ∧ b = 46
  · rw [h.1, h.2, hasDoubleDot.eq_1]; rfl
  · rw [hasDoubleDot.eq_2 _ _ fun t ha hb => h ⟨ha, (List.cons.inj hb).1⟩]
    cases hab : (a == 46 && b == 46)
    · rfl
    · exact absurd ((Bool.and_eq_true _ _).mp hab |>.imp eq_of_beq eq_of_beq) h

theorem hasDoubleDot_singleton (a : UInt8) : hasDoubleDot [a] = false := by
  rw [hasDoubleDot.eq_2, hasDoubleDot.eq_3]
  intro t _ h; simp at h

theorem hasDoubleDot_iff (s : Bytes) : hasDoubleDot s = true ↔ AdjacentPeriods s := by
  unfold AdjacentPeriods
  induction s with
  | nil => exact ⟨(fun h => nomatch h), fun ⟨p, q, h⟩ => by cases p <;> cases h⟩
  | cons a rest ih =>
    cases rest with
    | nil =>
      rw [hasDoubleDot_singleton]
      exact ⟨(fun h => nomatch h), fun ⟨p, q, h⟩ => by rcases p with _ | ⟨_, _ | _⟩ <;> cases h⟩
    | cons b r =>
      rw [hasDoubleDot_cons_cons, Bool.or_eq_true, ih, Bool.and_eq_true, beq_iff_eq, beq_iff_eq]
      constructor
      · rintro (⟨rfl, rfl⟩ | ⟨p, q, h⟩)
        · exact ⟨[], r, rfl⟩
        · exact ⟨a :: p, q, by rw [h]; rfl⟩
      · rintro ⟨p, q, h⟩
        cases p with
        | nil => exact Or.inl ⟨(List.cons.inj h).1, (List.cons.inj (List.cons.inj h).2).1⟩
        | cons x p' => exact Or.inr ⟨p', q, (List.cons.inj h).2⟩

/-! ### `^(?:[0-9]{1,3}\.){3}[0-9]{1,3}$` -/

/-- one to three digits -/
def Octet (f : Bytes) : Prop := 1 ≤ f.length ∧ f.length ≤ 3 ∧ ∀ x ∈ f, isDigit x = true

theorem isOctetShape_iff (f : Bytes) : isOctetShape f = true ↔ Octet f := by
  simp only [isOctetShape, Octet, Bool.and_eq_true, decide_eq_true_eq, List.all_eq_true, and_assoc]

theorem Octet.no_dot {f : Bytes} (h : Octet f) : (46 : UInt8) ∉ f :=
  fun hm => isDigit_ne_dot (h.2.2 46 hm) rfl

theorem IPv4Shaped_iff (s : Bytes) :
    IPv4Shaped s ↔ ∃ a b c d : Bytes, s = a ++ 46 :: (b ++ 46 :: (c ++ 46 :: d)) ∧
      Octet a ∧ Octet b ∧ Octet c ∧ Octet d := by
  simp only [IPv4Shaped, Octet, List.forall_mem_cons, List.not_mem_nil, false_imp_iff, implies_true, and_true,
    List.append_assoc, List.cons_append]

theorem matchesIpRe_iff (s : Bytes) : matchesIpRe s = true ↔ IPv4Shaped s := by
  rw [IPv4Shaped_iff]
  constructor
  · intro h
    unfold matchesIpRe at h
    split at h
    · rename_i a b c d hsp
      simp only [Bool.and_eq_true, isOctetShape_iff] at h
      obtain ⟨⟨⟨ha, hb⟩, hc⟩, hd⟩ := h
      have hj := join_splitOn 46 s
      rw [hsp] at hj
      exact ⟨a, b, c, d, by rw [← hj]; simp [joinWith], ha, hb, hc, hd⟩
    · cases h
  · rintro ⟨a, b, c, d, rfl, ha, hb, hc, hd⟩
    unfold matchesIpRe
    rw [splitOn_append 46 a _ ha.no_dot, splitOn_append 46 b _ hb.no_dot,
      splitOn_append 46 c _ hc.no_dot, splitOn_of_not_mem 46 d hd.no_dot]
    simp only [Bool.and_eq_true, isOctetShape_iff]
    exact ⟨⟨⟨ha, hb⟩, hc⟩, hd⟩

/-- **C16 (names)**: the model of `utils.IsValidBucketName` accepts exactly the valid names. -/
theorem isValidBucketName_iff (s : Bytes) : isValidBucketName s = true ↔ Valid s := by
  unfold isValidBucketName Valid
  -- the chain of early returns is the conjunction of the four tests
  simp only [Bool.if_false_left, Bool.decide_eq_true, Bool.not_not, Bool.and_true]
  simp only [Bool.and_eq_true, Bool.not_eq_true', Bool.or_eq_false_iff, decide_eq_false_iff_not]
  rw [matchesNameRe_iff, ← Bool.not_eq_true, ← Bool.not_eq_true, hasDoubleDot_iff, matchesIpRe_iff]
  constructor
  · rintro ⟨⟨_, h2⟩, ⟨h1, h3, h4, h5⟩, h6, h7⟩
    exact ⟨h1, Nat.le_of_not_gt h2, h3, h4, h5, h6, h7⟩
  · rintro ⟨h1, h2, h3, h4, h5, h6, h7⟩
    exact ⟨⟨Nat.not_lt.mpr h1, Nat.not_lt.mpr h2⟩, ⟨h1, h3, h4, h5⟩, h6, h7⟩

example : isValidBucketName [97, 98, 49] = true := by decide +kernel                        -- "ab1"
example : Valid [97, 98, 49] := (isValidBucketName_iff _).mp (by decide +kernel)
example : isValidBucketName [97, 98] = false := by decide +kernel                           -- "ab"
example : isValidBucketName [97, 66, 99] = false := by decide +kernel                       -- "aBc"
example : isValidBucketName [45, 97, 98] = false := by decide +kernel                       -- "-ab"
example : isValidBucketName [97, 46, 46, 98] = false := by decide +kernel                   -- "a..b"
example : isValidBucketName [49, 46, 50, 46, 51, 46, 52] = false := by decide +kernel       -- "1.2.3.4"
example : isValidBucketName [97, 98, 46] = false := by decide +kernel                       -- "ab."
example : ¬ Valid [49, 46, 50, 46, 51, 46, 52] :=
  fun h => absurd ((isValidBucketName_iff _).mpr h) (by decide +kernel)

end Vgw.Props.C16Name
