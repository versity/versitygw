/-
  C03 — Access decisions are enforced on every operation.
  `required` is the specification table: which (bucket, permission, S3 action, object) each
  operation needs.  The theorems say that `Model.Gw.handle` succeeds only if every requirement is
  granted by `verifyAccess`, that a refusal changes nothing and discloses nothing, and what
  `verifyAccess` means in terms of policy and ACL.
-/
import Vgw.Lemmas.GwStep
namespace Vgw.Props.C03
open Vgw Vgw.Model.Gw

structure Need where
  bucket : Bytes
  perm : Perm
  action : Bytes
  object : Bytes
  deriving DecidableEq

/-- **Specification**: the S3 action on the exact resource that each operation needs
(per key for batch delete; source and destination for copy). `none` = not governed by bucket
policy / ACL (CreateBucket: role check; ListBuckets: owner filter). -/
def required : Op → Option (List Need)
  | .createBucket .. | .listBuckets .. => none
  | .deleteBucket b => some [⟨b, .write, actDeleteBucket, []⟩]
  | .headBucket b => some [⟨b, .read, actListBucket, []⟩]
  | .putBucketPolicy b _ _ => some [⟨b, .write, actPutBucketPolicy, []⟩]
  | .getBucketPolicy b => some [⟨b, .read, actGetBucketPolicy, []⟩]
  | .deleteBucketPolicy b => some [⟨b, .write, actDeleteBucketPolicy, []⟩]
  | .putBucketAcl b _ => some [⟨b, .writeAcp, actPutBucketAcl, []⟩]
  | .putBucketAclGrants b _ => some [⟨b, .writeAcp, actPutBucketAcl, []⟩]
  | .getBucketAcl b => some [⟨b, .readAcp, actGetBucketAcl, []⟩]
  | .putBucketTagging b _ => some [⟨b, .write, actPutBucketTagging, []⟩]
  | .getBucketTagging b => some [⟨b, .read, actGetBucketTagging, []⟩]
  | .deleteBucketTagging b => some [⟨b, .write, actPutBucketTagging, []⟩]
  | .putOwnership b _ => some [⟨b, .write, actPutOwnership, []⟩]
  | .getOwnership b => some [⟨b, .read, actGetOwnership, []⟩]
  | .deleteOwnership b => some [⟨b, .write, actPutOwnership, []⟩]
  | .putVersioning b _ => some [⟨b, .write, actPutVersioning, []⟩]
  | .getVersioning b => some [⟨b, .read, actGetVersioning, []⟩]
  | .putObject b k _ _ => some [⟨b, .write, actPutObject, k⟩]
  | .getObject b k vid => some [⟨b, .read, if vid.isEmpty then actGetObject else actGetObjectVersion, k⟩]
  | .headObject b k _ => some [⟨b, .read, actGetObject, k⟩]
  | .deleteObject b k _ _ _ => some [⟨b, .write, actDeleteObject, k⟩]
  | .deleteObjects b keys _ _ => some (keys.map fun (k, _) => ⟨b, .write, actDeleteObject, k⟩)
  | .copyObject sb sk _ b k _ _ => some [⟨b, .write, actPutObject, k⟩, ⟨sb, .read, actGetObject, sk⟩]
  | .putObjectTagging b k _ => some [⟨b, .write, actPutObjectTagging, k⟩]
  | .getObjectTagging b k => some [⟨b, .read, actGetObjectTagging, k⟩]
  | .deleteObjectTagging b k => some [⟨b, .write, actDeleteObjectTagging, k⟩]
  | .listVersions b => some [⟨b, .read, actListVersions, []⟩]
  | .putLockConfig b _ _ _ => some [⟨b, .write, actPutLockCfg, []⟩]
  | .getLockConfig b => some [⟨b, .read, actGetLockCfg, []⟩]
  | .putRetention b k _ _ _ => some [⟨b, .write, actPutRetention, k⟩]
  | .getRetention b k _ => some [⟨b, .read, actGetRetention, k⟩]
  | .putLegalHold b k _ _ => some [⟨b, .write, actPutLegalHold, k⟩]
  | .getLegalHold b k _ => some [⟨b, .read, actGetLegalHold, k⟩]
  | .createUpload b k _ _ => some [⟨b, .write, actPutObject, k⟩]
  | .uploadPart b k _ _ _ _ => some [⟨b, .write, actPutObject, k⟩]
  | .uploadPartCopy b k _ _ sb sk _ _ _ => some [⟨b, .write, actPutObject, k⟩, ⟨sb, .read, actGetObject, sk⟩]
  | .listParts b k _ => some [⟨b, .read, actListParts, k⟩]
  | .listUploads b => some [⟨b, .read, actListUploads, []⟩]
  | .completeUpload b k _ _ _ _ => some [⟨b, .write, actPutObject, k⟩]
  | .abortUpload b k _ => some [⟨b, .write, actAbortUpload, k⟩]

/-- the requirement is granted in state `s` -/
def Granted (cfg : Cfg) (s : State) (w : Who) (n : Need) : Prop :=
  ∃ bk, findBucket s n.bucket = some bk ∧ verifyAccess cfg bk w n.perm n.action n.object = none

theorem withBucket_ok (s : State) (b : Bytes) (k : Bucket → State × Resp) (h : (withBucket s b k).2.code = "") :
    ∃ bk, findBucket s b = some bk ∧ (k bk).2.code = "" :=
  Model.Gw.withBucket_ok h

theorem guarded_ok (c : Option String) (s : State) (k : Unit → State × Resp) (h : (guarded c s k).2.code = "") :
    c = none :=
  Model.Gw.guarded_ok h

/-- the access check of both copy paths (VerifyObjectCopyAccess): passing it means destination
write and source read were granted -/
theorem copy_chk (cfg : Cfg) (s : State) (w : Who) (bk : Bucket) (b k sb sk : Bytes)
    (hnr : w.isRoot = false) (hna : (w.role == .admin) = false) (hb : findBucket s b = some bk)
    (hnone : (if cfg.readonly then some "AccessDenied" else
      if w.isRoot || w.role == .admin then none else
      match verifyAccess cfg bk w .write actPutObject k with
      | some e => some e
      | none =>
        match findBucket s sb with
        | none => some "NoSuchBucket"
        | some sbk => verifyAccess cfg sbk w .read actGetObject sk) = none) :
    ∀ n ∈ [(⟨b, .write, actPutObject, k⟩ : Need), ⟨sb, .read, actGetObject, sk⟩], Granted cfg s w n := by
  cases hro : cfg.readonly
  case true => rw [hro] at hnone; cases hnone
  rw [hro, hnr, hna] at hnone
  cases hdst : verifyAccess cfg bk w .write actPutObject k with
  | some e => rw [hdst] at hnone; cases hnone
  | none =>
    cases hsb : findBucket s sb with
    | none => rw [hdst, hsb] at hnone; cases hnone
    | some sbk =>
      rw [hdst, hsb] at hnone
      -- reduce the projections of the `Need`s first: the unifier would rather unfold the action
      -- constants to their byte lists, which is slow
      refine List.forall_mem_cons.mpr ⟨?_, List.forall_mem_singleton.mpr ?_⟩ <;> dsimp only [Granted]
      · exact ⟨bk, hb, hdst⟩
      · exact ⟨sbk, hsb, hnone⟩

/-- **The source half of a copy is decided for the source KEY, whatever version of it the request
names**: when the caller may write the destination but is refused `s3:GetObject` on the source key,
CopyObject answers that refusal and changes nothing, for every version id in the copy source (the
defect repaired by 9e8e2c2 decided for the resource `key?versionId=id`). -/
theorem copy_source_refused_any_version (cfg : Cfg) (hro : cfg.readonly = false) (s : State) (w : Who) (now : Int)
    (bk sbk : Bucket) (b k sb sk : Bytes) (e : String)
    (hnr : w.isRoot = false) (hna : (w.role == .admin) = false)
    (hb : findBucket s b = some bk) (hsb : findBucket s sb = some sbk)
    (hdst : verifyAccess cfg bk w .write actPutObject k = none)
    (hsrc : verifyAccess cfg sbk w .read actGetObject sk = some e) :
    ∀ (svid : Bytes) (rep : Option PutSpec) (nv : Bytes),
      handle cfg s w now (.copyObject sb sk svid b k rep nv) = (s, errR e) := by
  intro svid rep nv
  exact gated_some hb (by simp only [hro, hnr, hna, hdst, hsb, hsrc, Bool.or_self, Bool.false_eq_true, if_false])

/-- the same for UploadPartCopy. -/
theorem partcopy_source_refused_any_version (cfg : Cfg) (hro : cfg.readonly = false) (s : State) (w : Who) (now : Int)
    (bk sbk : Bucket) (b k id sb sk : Bytes) (num : Nat) (e : String)
    (hnr : w.isRoot = false) (hna : (w.role == .admin) = false)
    (hb : findBucket s b = some bk) (hsb : findBucket s sb = some sbk)
    (hdst : verifyAccess cfg bk w .write actPutObject k = none)
    (hsrc : verifyAccess cfg sbk w .read actGetObject sk = some e) :
    ∀ (svid : Bytes) (range : Option (Nat × Nat)) (etag : Bytes),
      handle cfg s w now (.uploadPartCopy b k id num sb sk svid range etag) = (s, errR e) := by
  intro svid range etag
  exact gated_some hb (by simp only [hro, hnr, hna, hdst, hsb, hsrc, Bool.or_self, Bool.false_eq_true, if_false])

/-- **Success implies every requirement was granted.** For every caller that is neither root nor
an admin (those are exempt by design), every state and every operation: if the answer is a
success, then each (action, resource) the specification table demands was granted by
`verifyAccess` on the bucket it names. -/
theorem success_implies_granted (cfg : Cfg) (s : State) (w : Who) (now : Int) (op : Op) (needs : List Need)
    (hreq : required op = some needs) (hnr : w.isRoot = false) (hna : (w.role == .admin) = false)
    (hok : (handle cfg s w now op).2.code = "") :
    ∀ n ∈ needs, Granted cfg s w n := by
  have single : ∀ {b p a o} {k : Bucket → Unit → State × Resp},
      (withBucket s b fun bk => guarded (verifyAccess cfg bk w p a o) s (k bk)).2.code = "" →
      ∀ n ∈ [(⟨b, p, a, o⟩ : Need)], Granted cfg s w n := by
    intro b p a o k h
    obtain ⟨bk, hb, hc, _⟩ := gated_ok h
    exact List.forall_mem_singleton.mpr ⟨bk, hb, hc⟩
  cases op <;> cases hreq
  case putBucketAcl b a | putBucketAclGrants b gs =>
    obtain ⟨bk, hb, h⟩ := withBucket_ok _ _ _ hok
    have h' := ite_err_of_ok h
    rw [h'] at h
    refine List.forall_mem_singleton.mpr ?_
    dsimp only [Granted]
    exact ⟨bk, hb, guarded_ok _ _ _ h⟩
  case deleteObjects b keys bp nvs =>
    obtain ⟨bk, hb, hnone, _⟩ := gated_ok hok
    intro n hn
    obtain ⟨⟨k, v⟩, hkv, rfl⟩ := List.mem_map.mp hn
    dsimp only [Granted]
    refine ⟨bk, hb, ?_⟩
    have hne : keys.isEmpty = false := by
      cases keys with
      | nil => cases hkv
      | cons _ _ => rfl
    simp only [hne, Bool.false_eq_true, if_false, List.findSome?_eq_none_iff, List.mem_map] at hnone
    exact hnone k ⟨(k, v), hkv, rfl⟩
  case copyObject sb sk svid b k rep nv | uploadPartCopy b k id num sb sk svid rg et =>
    obtain ⟨bk, hb, h, _⟩ := gated_ok hok
    exact copy_chk cfg s w bk b k sb sk hnr hna hb h
  all_goals exact single hok

/-- **What a grant means** for a caller that is neither root nor admin, outside read-only mode:
with a policy set, exactly the policy decides (some Allow statement matches caller, action and
resource and no Deny statement matches); with no policy, exactly the ACL decides. -/
theorem verifyAccess_iff (cfg : Cfg) (hro : cfg.readonly = false) (b : Bucket) (w : Who)
    (hnr : w.isRoot = false) (hna : (w.role == .admin) = false) (perm : Perm) (act obj : Bytes) :
    verifyAccess cfg b w perm act obj = none ↔
      (match b.policy with
       | some p => (∃ st ∈ p.stmts, st.allow = true ∧ stmtMatch st w.access act (resourceOf b.name obj) = true) ∧
                   ¬ (∃ st ∈ p.stmts, st.allow = false ∧ stmtMatch st w.access act (resourceOf b.name obj) = true)
       | none => aclGrants b.acl w.access perm = true) := by
  unfold verifyAccess
  rw [hro, hnr, hna, Bool.false_and, if_neg Bool.false_ne_true, if_neg Bool.false_ne_true, if_neg Bool.false_ne_true]
  cases b.policy with
  | none => dsimp only; cases aclGrants b.acl w.access perm <;> simp
  | some p =>
    dsimp only
    rw [← policyAllows_iff]
    cases policyAllows p w.access act (resourceOf b.name obj) <;> simp

/-- **A refusal changes nothing and discloses nothing.** -/
theorem refusal_no_effect (cfg : Cfg) (s : State) (b : Bytes) (bk : Bucket) (hb : findBucket s b = some bk)
    (e : String) (chk : Option String) (hchk : chk = some e) (k : Unit → State × Resp) :
    (withBucket s b fun _ => guarded chk s k) = (s, errR e) :=
  gated_some (chk := fun _ => chk) hb hchk

/-- **Access to one bucket never confers access to another**: the decision for a request on bucket
`b` is a function of that bucket's own policy/ACL alone — two states that hold the same bucket `b`
give the same decision, whatever policies and ACLs their other buckets carry. -/
theorem decision_depends_on_own_bucket (cfg : Cfg) (s s' : State) (w : Who) (n : Need)
    (h : findBucket s n.bucket = findBucket s' n.bucket) : Granted cfg s w n ↔ Granted cfg s' w n := by
  unfold Granted; rw [h]

/-- non-vacuity: a user who is granted GetObject by policy on `b/k` only -/
def pol : Policy := ⟨1, [⟨true, [[117]], [actGetObject], [[98, 47, 107]]⟩]⟩
def bkt : Bucket := { name := [98], acl := ⟨[114], []⟩, policy := some pol }
example : verifyAccess {} bkt ⟨[117], false, .user⟩ .read actGetObject [107] = none := by decide +kernel
example : verifyAccess {} bkt ⟨[117], false, .user⟩ .read actGetObject [108] = some "AccessDenied" := by decide +kernel
example : verifyAccess {} bkt ⟨[118], false, .user⟩ .read actGetObject [107] = some "AccessDenied" := by decide +kernel

/-- non-vacuity of `copy_source_refused_any_version`: user `u` may write `b/d` and read `b/k`, not `b/s`;
copying `b/s` (any version) to `b/d` is refused, copying `b/k` is not refused for access. -/
def pol2 : Policy := ⟨2, [⟨true, [[117]], [actGetObject], [[98, 47, 107]]⟩, ⟨true, [[117]], [actPutObject], [[98, 47, 100]]⟩]⟩
def bkt2 : Bucket := { name := [98], acl := ⟨[114], []⟩, policy := some pol2 }
example : verifyAccess {} bkt2 ⟨[117], false, .user⟩ .write actPutObject [100] = none ∧
    verifyAccess {} bkt2 ⟨[117], false, .user⟩ .read actGetObject [115] = some "AccessDenied" ∧
    verifyAccess {} bkt2 ⟨[117], false, .user⟩ .read actGetObject [107] = none := by decide +kernel

end Vgw.Props.C03
