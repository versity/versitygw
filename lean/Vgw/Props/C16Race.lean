/-
  C16, race clause: "no object whose upload was acknowledged is ever lost to a concurrent DeleteBucket" —
  every acknowledged upload stays a published entry of the existing bucket (`Inv` is preserved), and a bucket
  that is gone in the end has no acknowledged upload — for EVERY interleaving of the filesystem steps of one
  or more DeleteBucket, any number of uploads and CreateBucket requests on the same bucket
  (Model.BucketRace, repaired variant = the code).
  The pinned code (recursive removal, MkdirAll re-creating the bucket) violated it: `pinned_loses_upload`.
-/
import Vgw.Lemmas.BucketRace
namespace Vgw.Props.C16Race
open Vgw Vgw.Model.BucketRace

/-- every acknowledged upload is a published entry of an existing bucket -/
def Inv (s : Sys) : Prop := ∀ k ∈ acked s.reqs, s.fs.exists_ = true ∧ k ∈ s.fs.entries

theorem mem_setNth (rs : List Req) (i : Nat) (r' x : Req) (h : x ∈ setNth rs i r') : x ∈ rs ∨ x = r' := by
  induction rs generalizing i with
  | nil => cases h
  | cons y rs ih =>
    cases i with
    | zero => exact (List.mem_cons.mp h).elim Or.inr fun h => Or.inl (List.mem_cons_of_mem y h)
    | succ n =>
      rcases List.mem_cons.mp h with h | h
      · exact Or.inl (h ▸ List.mem_cons_self)
      · exact (ih n h).imp_left (List.mem_cons_of_mem y)

theorem ackKey_some (r : Req) (k : Nat) (h : ackKey r = some k) : ∃ pc, r = .upload k pc .ok := by
  unfold ackKey at h
  split at h
  · rename_i k' pc
    simp only [Option.some.injEq] at h
    exact ⟨pc, by rw [h]⟩
  · simp at h

theorem mem_acked_setNth (rs : List Req) (i : Nat) (r' : Req) (k : Nat)
    (h : k ∈ acked (setNth rs i r')) : k ∈ acked rs ∨ ∃ pc, r' = .upload k pc .ok := by
  simp only [acked, List.mem_filterMap] at h ⊢
  obtain ⟨x, hx, hk⟩ := h
  rcases mem_setNth rs i r' x hx with h' | h'
  · left; exact ⟨x, h', hk⟩
  · right; subst h'; exact ackKey_some x k hk

/-- one step of one request keeps every acknowledged upload published -/
theorem stepReq_keeps (fs : FS) (r : Req) (k : Nat) (hE : fs.exists_ = true) (hk : k ∈ fs.entries) :
    (stepReq .repaired fs r).1.exists_ = true ∧ k ∈ (stepReq .repaired fs r).1.entries := by
  rcases stepReq_repaired_effect fs r with ⟨h1, h2, _⟩ | ⟨h, _⟩ | ⟨k', _, h1, h2⟩
  · rw [h1, h2]; exact ⟨hE, hk⟩
  · rcases h with h | h
    · rw [hE] at h; cases h
    · rw [h] at hk; cases hk
  · rw [h1, h2]
    refine ⟨rfl, ?_⟩
    by_cases e : k = k'
    · rw [e]; exact List.mem_cons_self
    · exact List.mem_cons_of_mem _ (List.mem_filter.mpr ⟨hk, decide_eq_true e⟩)

/-- an upload that becomes acknowledged by this step is published -/
theorem stepReq_new_ack (fs : FS) (r : Req) (k pc : Nat)
    (h : (stepReq .repaired fs r).2 = .upload k pc .ok) (hne : r ≠ .upload k pc .ok) :
    (stepReq .repaired fs r).1.exists_ = true ∧ k ∈ (stepReq .repaired fs r).1.entries := by
  rcases stepReq_repaired_effect fs r with ⟨_, _, h' | h'⟩ | ⟨_, h'⟩ | ⟨k', h', h1, h2⟩
  · exact absurd (h'.symm.trans h) hne
  · rw [h] at h'; cases h'
  · rw [h] at h'; cases h'
  · rw [h] at h'; cases h'
    rw [h1, h2]
    exact ⟨rfl, List.mem_cons_self⟩

theorem step_inv (s : Sys) (i : Nat) (h : Inv s) : Inv (step .repaired s i) := by
  unfold step
  split
  · exact h
  · rename_i r hr
    intro k hk
    simp only at hk ⊢
    rcases mem_acked_setNth s.reqs i _ k hk with hk' | ⟨pc, hpc⟩
    · exact stepReq_keeps s.fs r k (h k hk').1 (h k hk').2
    · by_cases hsame : r = .upload k pc .ok
      · -- the request had already been acknowledged: it was in `acked` before
        have hmem : k ∈ acked s.reqs := by
          have : r ∈ s.reqs := List.mem_of_getElem? hr
          simp only [acked, List.mem_filterMap]
          exact ⟨r, this, by simp [hsame, ackKey]⟩
        exact stepReq_keeps s.fs r k (h k hmem).1 (h k hmem).2
      · exact stepReq_new_ack s.fs r k pc hpc hsame

/-- **C16, race clause.** From any state in which the acknowledged uploads are published (in particular
from any state where all requests are still to begin), under every schedule of the steps of any number
of DeleteBucket, upload and CreateBucket requests, every acknowledged upload is a published entry of the
existing bucket: none is ever lost. -/
theorem no_acknowledged_upload_lost (s : Sys) (sched : List Nat) (h : Inv s) :
    Inv (run .repaired s sched) := by
  unfold run
  induction sched generalizing s with
  | nil => exact h
  | cons i rest ih => exact ih (step .repaired s i) (step_inv s i h)

/-- the wording of the property: when the bucket is gone in the end (the delete won), no upload was
acknowledged — every upload failed -/
theorem bucket_gone_implies_no_ack (s : Sys) (sched : List Nat) (h : Inv s)
    (hgone : (run .repaired s sched).fs.exists_ = false) : acked (run .repaired s sched).reqs = [] :=
  List.eq_nil_iff_forall_not_mem.mpr fun k hk =>
    nomatch hgone.symm.trans (no_acknowledged_upload_lost s sched h k hk).1

/-- non-vacuity: a fresh system (one delete, two uploads, one create, all about to start) meets the hypothesis -/
example : Inv { fs := {}, reqs := [.delete 0 .running, .upload 7 0 .running, .upload 8 0 .running, .create 0 .running] } := by
  intro k hk; cases hk

/-- the race as the pinned code ran it: DeleteBucket checks emptiness, the upload runs to its acknowledgement,
DeleteBucket removes the tree — the acknowledged object is gone. (regression example about the OLD code) -/
theorem pinned_loses_upload :
    let s : Sys := { fs := {}, reqs := [.delete 0 .running, .upload 7 0 .running] }
    let e := run .pinned s [0, 1, 1, 1, 0, 0]
    acked e.reqs = [7] ∧ deleted e.reqs = true ∧ e.fs.entries = [] := by decide +kernel

/-- the same schedule on the repaired code: the delete is refused as not empty -/
example :
    let s : Sys := { fs := {}, reqs := [.delete 0 .running, .upload 7 0 .running] }
    let e := run .repaired s [0, 1, 1, 1, 0, 0]
    acked e.reqs = [7] ∧ deleted e.reqs = false ∧ e.fs.entries = [7] := by decide +kernel

/-- the other window as the pinned code ran it: the upload passes its bucket check, DeleteBucket completes,
the upload re-creates the bucket directory and is acknowledged (regression example about the OLD code) -/
theorem pinned_resurrects_bucket :
    let s : Sys := { fs := {}, reqs := [.delete 0 .running, .upload 7 0 .running] }
    let e := run .pinned s [1, 0, 0, 0, 1, 1]
    acked e.reqs = [7] ∧ deleted e.reqs = true := by decide +kernel

example :
    let s : Sys := { fs := {}, reqs := [.delete 0 .running, .upload 7 0 .running] }
    let e := run .repaired s [1, 0, 0, 0, 1, 1]
    acked e.reqs = [] ∧ deleted e.reqs = true := by decide +kernel

end Vgw.Props.C16Race
