/-
  C17 — account changes take effect immediately and completely.

  All statements are about `Model.IAM` (auth/iam_cache.go over auth/iam_internal.go, one gateway
  process), for EVERY start image, EVERY history and EVERY interleaving (`List Act`: invocations,
  atomic steps of any in-flight call, clock advances, cache pruning), proved by invariants over
  `run` — nothing is decided over samples.  No side condition on histories, schedules or clock.

  `Variant.current` is /repo as it is (account changes invalidate the cache entry and bump a
  generation; the miss path stores what it fetched only under the generation it saw);
  `Variant.cacheDisabled` is --iam-cache-disable.

  Claimed: sequential histories behave like the plain map access → account; a lookup invoked once
  every change of its key is acknowledged answers the store's state; concurrent changes are
  serialised, and users.json is a complete image whenever the lock is free.

  The `_gen` forms are stated for every `Variant`, i.e. also for the REGRESSION MODEL
  `Variant.oldWriteThrough` (the code before 6f25651), for which they need the side condition
  `QuietRun` / `CreatesOk`; the harness uses that model only to explain the schedules that fail
  when the old behaviour comes back.  Nothing here or in Open/C17.lean says that the current code
  violates C17.
-/
import Vgw.Lemmas.IAMCall
import Vgw.Lemmas.IAMList
import Vgw.Lemmas.IAMQuietB
namespace Vgw.Props.C17
open Vgw Vgw.Model.IAM
open Vgw.Model.Gw (Account Role)

/-- a gateway starts on a complete image with one entry per key that does not contain the root
account's key (CreateAccount refuses it, so no gateway ever writes one) -/
structure Start (cfg : Cfg) (s : Store) : Prop where
  rootFree : s.find cfg.root.access = none
  nodup : keysNodup s

/-! ## sequential histories refine the plain map -/

/-- the answers of a sequential history are the plain map's answers; a listing is a listing of
the map (`Spec.IAM.ListOk`: sorted by access, exactly the map's accounts) -/
def SeqRefines (cfg : Cfg) : Spec.IAM.Accts → List SeqAct → List (Option Res) → Prop
  | _, [], [] => True
  | m, .call op :: rest, r :: rs =>
    (match op with
     | .list => ∃ l, r = some (.accts l) ∧ Spec.IAM.ListOk m l
     | _ => r = some (Spec.IAM.apply cfg.root m op).2) ∧
    SeqRefines cfg (Spec.IAM.apply cfg.root m op).1 rest rs
  | m, .tick _ :: rest, rs => SeqRefines cfg m rest rs
  | m, .gc :: rest, rs => SeqRefines cfg m rest rs
  | _, _, _ => False

/-- regression model only: the entries its CreateAccount caches are the accounts (void for the
current code: `NeedsQuiet .current` is false) -/
def CreatesOk (v : Variant) (h : List SeqAct) : Prop :=
  NeedsQuiet v → ∀ a, SeqAct.call (.create a) ∈ h → entryOf v a = a

theorem seqRun_call (v : Variant) (cfg : Cfg) (σ : State) (op : Op) (rest : List SeqAct) :
    seqRun v cfg σ (.call op :: rest) =
      (call v cfg σ op).result σ.calls.length :: seqRun v cfg (call v cfg σ op) rest := rfl

theorem seqRefines_call (cfg : Cfg) (m : Spec.IAM.Accts) (op : Op) (rest : List SeqAct) (r : Option Res) (rs : List (Option Res)) :
    SeqRefines cfg m (.call op :: rest) (r :: rs) =
      ((match op with
        | .list => ∃ l, r = some (.accts l) ∧ Spec.IAM.ListOk m l
        | _ => r = some (Spec.IAM.apply cfg.root m op).2) ∧
       SeqRefines cfg (Spec.IAM.apply cfg.root m op).1 rest rs) := rfl

attribute [local irreducible] Model.IAM.call in
theorem seq_refines_aux {v : Variant} {cfg : Cfg} {s0 : Store} (h : List SeqAct) : ∀ {σ : State},
    FullInv v cfg s0 σ → Quiescent σ → keysNodup σ.committed → CreatesOk v h →
    SeqRefines cfg (abs σ.committed) h (seqRun v cfg σ h) := by
  induction h with
  | nil => intro σ _ _ _ _; trivial
  | cons a rest ih =>
    intro σ hF hQ hN hC
    have hCrest : CreatesOk v rest := fun hn b hb => hC hn b (List.mem_cons_of_mem _ hb)
    cases a with
    | call op =>
      obtain ⟨r, hres, hspec, hF', hQ'⟩ := call_spec hF hQ op (fun hn b hb => hC hn b (by rw [hb]; simp))
      have hN' : keysNodup (call v cfg σ op).committed := by
        rw [call_eq_run]; exact keysNodup_run hF.inv.wf hN _
      have ihh := ih hF' hQ' hN' hCrest
      rw [seqRun_call, seqRefines_call, hres]
      cases op
      case list =>
        have h1 : (call v cfg σ .list).committed = σ.committed := hspec.1
        have h2 : r = .accts (sortAccts σ.committed) := hspec.2
        exact ⟨⟨_, by rw [h2], sortAccts_listOk _ hN⟩, h1 ▸ ihh⟩
      all_goals
        have h1 : Spec.IAM.apply cfg.root (abs σ.committed) _ = (abs (call v cfg σ _).committed, r) := hspec
        rw [h1]
        exact ⟨rfl, ihh⟩
    | tick n =>
      exact ih (hF.act (.tick n) (fun _ => trivial)) hQ hN hCrest
    | gc =>
      exact ih (hF.act .gc (fun _ => trivial)) hQ hN hCrest

/-- general form (every `Variant`, the regression model included, for which `CreatesOk` is a real
condition; for the current code it is void: `createsOk_of_invalidate`) -/
theorem seq_refines_map_gen (v : Variant) (cfg : Cfg) (s : Store) (now : Nat) (hs : Start cfg s)
    (h : List SeqAct) (hC : CreatesOk v h) :
    SeqRefines cfg (abs s) h (seqRun v cfg (init s now) h) :=
  seq_refines_aux h (FullInv.init v cfg s now hs.rootFree) (Quiescent.init s now) hs.nodup hC

/-- variants without side condition: everything but the write-through regression model -/
theorem createsOk_of_invalidate {v : Variant} (hv : v.invalidate = true ∨ v.cache = false) (h : List SeqAct) :
    CreatesOk v h := by
  intro hn a _
  rcases hv with h1 | h1
  · rw [hn.2] at h1; cases h1
  · rw [hn.1] at h1; cases h1

/-- SEQUENTIAL REFINEMENT of the current code: on every start image, for every sequential history
of create / get / update / delete / list calls, clock advances and pruning runs, every answer is
the plain map's answer (a new account with all its attributes at once, a changed secret, a
deleted account), and listings are listings of the map. -/
theorem seq_refines_map (cfg : Cfg) (s : Store) (now : Nat) (h : List SeqAct) (hs : Start cfg s) :
    SeqRefines cfg (abs s) h (seqRun .current cfg (init s now) h) :=
  seq_refines_map_gen .current cfg s now hs h (createsOk_of_invalidate (Or.inl rfl) h)

/-- the same with --iam-cache-disable -/
theorem seq_refines_map_cache_disabled (cfg : Cfg) (s : Store) (now : Nat) (h : List SeqAct) (hs : Start cfg s) :
    SeqRefines cfg (abs s) h (seqRun .cacheDisabled cfg (init s now) h) :=
  seq_refines_map_gen .cacheDisabled cfg s now hs h (createsOk_of_invalidate (Or.inr rfl) h)

theorem seqRefines_some (cfg : Cfg) : ∀ (h : List SeqAct) (m : Spec.IAM.Accts) (rs : List (Option Res)),
    SeqRefines cfg m h rs → ∀ r ∈ rs, r ≠ none
  | [], _, [], _ => by simp
  | [], _, _ :: _, h => by simp [SeqRefines] at h
  | .call op :: rest, m, [], h => by simp [SeqRefines] at h
  | .call op :: rest, m, r :: rs, h => by
    rw [seqRefines_call] at h
    intro x hx
    rcases List.mem_cons.mp hx with hx | hx
    · subst hx
      cases op
      case list => obtain ⟨⟨l, hl, _⟩, _⟩ := h; rw [hl]; exact Option.some_ne_none _
      all_goals rw [h.1]; exact Option.some_ne_none _
    · exact seqRefines_some cfg rest _ rs h.2 x hx
  | .tick _ :: rest, m, rs, h => seqRefines_some cfg rest m rs h
  | .gc :: rest, m, rs, h => seqRefines_some cfg rest m rs h

/-- every call of a sequential history returns (no call is left blocked on the store mutex) -/
theorem call_returns (cfg : Cfg) (s : Store) (now : Nat) (hs : Start cfg s) (h : List SeqAct) :
    ∀ r ∈ seqRun .current cfg (init s now) h, r ≠ none :=
  seqRefines_some cfg h _ _ (seq_refines_map cfg s now h hs)

/-! ## a lookup after the acknowledgement sees the new state -/

/-- Once every change of key k has been acknowledged (`NoMut`: none is in flight after `acts₁`)
and as long as no further change of k is invoked, EVERY lookup of k that is invoked from then on
and returns — whatever else is in flight (lookups of k that started earlier included), whatever
the clock and the pruning goroutine do — answers exactly what the plain map answers on the
committed image: the account with every attribute, or "no such user". -/
def LookupAfterAck (v : Variant) (cfg : Cfg) (s : Store) (now : Nat) (acts₁ acts₂ : List Act) : Prop :=
  ∀ k, NoMut (run v cfg (init s now) acts₁) k → (∀ op, Act.invoke op ∈ acts₂ → op.isMut = true → op.key ≠ k) →
  ∀ i r, (run v cfg (init s now) acts₁).calls.length ≤ i →
    (run v cfg (run v cfg (init s now) acts₁) acts₂).calls[i]? = some ⟨.get k, .done r⟩ →
    r = (Spec.IAM.apply cfg.root (abs (run v cfg (init s now) acts₁).committed) (.get k)).2

theorem lookup_after_ack_gen (v : Variant) (cfg : Cfg) (s : Store) (now : Nat) (acts₁ acts₂ : List Act)
    (hs : Start cfg s) (hq : NeedsQuiet v → QuietRun v cfg (init s now) (acts₁ ++ acts₂)) :
    LookupAfterAck v cfg s now acts₁ acts₂ := by
  intro k hN hnm i r hi hget
  generalize hσ : run v cfg (init s now) acts₁ = σ₁ at hN hi hget ⊢
  have hI : Inv v cfg σ₁ := by
    rw [← hσ]; exact (Inv.init v cfg s now hs.rootFree).run acts₁ (fun hn => (quietRun_append.mp (hq hn)).1)
  have hA := (After.start hI hN).run acts₂ (fun hn => by rw [← hσ]; exact (quietRun_append.mp (hq hn)).2) hnm
  have : r = resOf (look cfg σ₁.committed k) := hA.newok i _ hget hi rfl
  rw [this]
  simp only [Spec.IAM.apply, ← look_eq_spec]
  cases look cfg σ₁.committed k <;> rfl

/-- LOOKUP AFTER ACKNOWLEDGEMENT, current code, every schedule: no side condition. -/
theorem lookup_after_ack (cfg : Cfg) (s : Store) (now : Nat) (acts₁ acts₂ : List Act) (hs : Start cfg s) :
    LookupAfterAck .current cfg s now acts₁ acts₂ :=
  lookup_after_ack_gen .current cfg s now acts₁ acts₂ hs (fun hn => by cases hn.2)

/-- the same with --iam-cache-disable -/
theorem lookup_after_ack_cache_disabled (cfg : Cfg) (s : Store) (now : Nat) (acts₁ acts₂ : List Act) (hs : Start cfg s) :
    LookupAfterAck .cacheDisabled cfg s now acts₁ acts₂ :=
  lookup_after_ack_gen .cacheDisabled cfg s now acts₁ acts₂ hs (fun hn => by cases hn.1)

/-! ## concurrent changes are serialised; the store file is always a complete image -/

/-- the logged changes applied to the plain map one after the other, each answering what the map
answers at its turn -/
inductive SpecSerial (root : Account) : Spec.IAM.Accts → List LogEntry → Spec.IAM.Accts → Prop
  | nil (m) : SpecSerial root m [] m
  | cons {m e rest m'} : (Spec.IAM.apply root m e.op).2 = e.res →
      SpecSerial root (Spec.IAM.apply root m e.op).1 rest m' → SpecSerial root m (e :: rest) m'

theorem specSerial_of_replay (cfg : Cfg) : ∀ (l : List LogEntry) (s s' : Store),
    (∀ e ∈ l, e.op.isMut = true) → replay cfg s l = some s' → SpecSerial cfg.root (abs s) l (abs s')
  | [], s, s', _, h => by simp only [replay, Option.some.injEq] at h; subst h; exact .nil _
  | e :: rest, s, s', hm, h => by
    rw [← List.singleton_append, replay_append] at h
    cases h1 : replay cfg s [e] with
    | none => rw [h1] at h; cases h
    | some s'' =>
      rw [h1] at h
      have hsp := apply_of_replay (hm e (by simp)) h1
      refine .cons (by rw [hsp]) ?_
      rw [hsp]
      exact specSerial_of_replay cfg rest s'' s' (fun x hx => hm x (List.mem_cons_of_mem _ hx)) h

/-- lock / file invariant, typing and serialisation log along any schedule (no side condition) -/
structure Base (cfg : Cfg) (s0 : Store) (σ : State) : Prop where
  wf : Wf cfg σ
  typ : TInv cfg σ
  ser : SInv cfg s0 σ

theorem Base.run {v : Variant} {cfg : Cfg} {s0 : Store} {σ : State} (h : Base cfg s0 σ) (acts : List Act) :
    Base cfg s0 (run v cfg σ acts) :=
  run_induction acts h fun _ a _ h => ⟨h.wf.act a, h.typ.act a, h.ser.act h.wf h.typ a⟩

theorem Base.init (cfg : Cfg) (s : Store) (now : Nat) : Base cfg s (init s now) :=
  ⟨Wf.init cfg s now, TInv.init cfg s now, SInv.init cfg s now⟩

/-- MUTATIONS ARE SERIALISED (every revision, every schedule): at every reachable state
(1) the committed image is the start image with the logged changes applied one after the other,
    each to the image its predecessor left and each answering what the plain map answers there —
    no update is lost, none applied to a stale image;
(2) every change that has returned is in that log exactly once, with the answer it returned;
(3) the image has one entry per key;
(4) whenever nobody holds the write lock, users.json is exactly that image and no temp file is
    left behind. -/
theorem mutations_serialised (v : Variant) (cfg : Cfg) (s : Store) (now : Nat) (acts : List Act) (hs : Start cfg s) :
    let σ := run v cfg (init s now) acts
    SpecSerial cfg.root (abs s) σ.log (abs σ.committed) ∧
    (∀ i op r, σ.calls[i]? = some ⟨op, .done r⟩ → op.isMut = true →
      σ.log.filter (fun e => e.id == i) = [⟨i, op, r⟩]) ∧
    keysNodup σ.committed ∧
    (σ.writer = none → σ.main = some σ.committed ∧ σ.temp = none) := by
  intro σ
  have hB : Base cfg s σ := (Base.init cfg s now).run acts
  refine ⟨specSerial_of_replay cfg _ _ _ hB.ser.muts hB.ser.rep, ?_, keysNodup_run (Wf.init cfg s now) hs.nodup acts, hB.wf.l.free⟩
  intro i op r hi hm
  have := hB.ser.own i _ hi
  simpa [ownLog, hm, decided] using this

/-- the log is append-only, and an entry logged by the time a state is reached belongs to a call
that exists there.  That a change which returned before another call was invoked precedes it in
the serial order needs, in addition, clause (2) of `mutations_serialised`: the returned change is
in the log by then. -/
theorem serial_respects_real_time (v : Variant) (cfg : Cfg) (s : Store) (now : Nat) (acts₁ acts₂ : List Act) :
    let σ₁ := run v cfg (init s now) acts₁
    (∃ l, (run v cfg (init s now) (acts₁ ++ acts₂)).log = σ₁.log ++ l) ∧ ∀ e ∈ σ₁.log, e.id < σ₁.calls.length := by
  intro σ₁
  refine ⟨?_, ((Base.init cfg s now).run acts₁).ser.ids⟩
  rw [run_append]
  exact (run_log v cfg σ₁ acts₂).imp fun _ h => h.1

/-- whoever reads the store under the read lock reads the complete committed image -/
theorem reader_sees_complete_image (v : Variant) (cfg : Cfg) (s : Store) (now : Nat) (acts : List Act) :
    let σ := run v cfg (init s now) acts
    (σ.readers ≠ [] → σ.main = some σ.committed) ∧
    ∀ (i : Nat) (c : Call), σ.calls[i]? = some c →
      (∀ r g, c.pc = .gGot r g → r = σ.committed.find c.op.key) ∧ (∀ s', c.pc = .lGot s' → s' = σ.committed) := by
  intro σ
  have hW : Wf cfg σ := (Wf.init cfg s now).run acts
  refine ⟨?_, ?_⟩
  · intro hr
    cases hw : σ.writer with
    | none => exact (hW.l.free hw).1
    | some w => exact absurd (hW.l.excl (by rw [hw]; simp)) hr
  · intro i c hi
    have hp := (hW.l.calls i c hi).pc
    unfold PcL at hp
    refine ⟨?_, ?_⟩
    · intro r g hpc; rw [hpc] at hp; exact hp.2
    · intro s' hpc; rw [hpc] at hp; exact hp

/-! ## non-vacuity (tests: concrete instances, evaluated by the kernel) -/

section Examples

def rootA : Account := { access := [114], secret := [1], role := .admin }
def cfgA : Cfg := { root := rootA, ttl := 5 }
/-- account `a`: secret 2, role userplus, uid 5, gid 1000 -/
def accB : Account := { access := [97], secret := [2], role := .userplus, uid := 5, gid := 1000 }
def accA : Account := { access := [97], secret := [7], role := .user, uid := 1, gid := 2 }
def accC : Account := { access := [98], secret := [4], role := .admin }

theorem startA : Start cfgA [accB, accC] := ⟨by decide, by simp [keysNodup, accB, accC]⟩

def histA : List SeqAct := [.call (.create accB), .call (.get [97]), .tick 6, .call (.update [97] { secret := some [3], uid := some 9 }),
  .call (.get [97]), .call .list, .call (.delete [97]), .call (.get [97])]

/-- `seq_refines_map` on a history with create (uid/gid ≠ 0), expiry, update, delete (instance) -/
example : SeqRefines cfgA (abs []) histA (seqRun .current cfgA (init []) histA) :=
  seq_refines_map cfgA [] 0 histA ⟨by decide, by simp [keysNodup]⟩

/-- the answers of that history, computed: the fresh account answers with ALL its attributes, the
update shows at once, the deleted account is gone (test) -/
example : seqRun .current cfgA (init []) histA
    = [some .ok, some (.acct accB), some .ok, some (.acct { accB with secret := [3], uid := 9 }),
       some (.accts [{ accB with secret := [3], uid := 9 }]), some .ok, some .noSuchUser] := by decide +kernel

/-- `lookup_after_ack`, a racy instance: lookup 0 of `a` is parked between its fetch and its
cache.set (it holds the OLD account), delete 1 of `a` runs to its acknowledgement, lookup 0
continues, the clock moves — lookup 2, invoked after the acknowledgement, answers "no such user"
(the hypotheses are met, the conclusion is computed; test) -/
def acts1 : List Act := [.invoke (.get [97]), .step 0, .step 0, .step 0, .step 0, .invoke (.delete [97])] ++ List.replicate 9 (.step 1)
def acts2 : List Act := [.step 0, .tick 3, .invoke (.get [97]), .step 2, .step 2, .step 2, .step 2]

example : (run .current cfgA (init [accB, accC]) acts1).calls[0]? = some ⟨.get [97], .gFetched accB 0⟩ := by decide +kernel
example : (run .current cfgA (init [accB, accC]) acts1).calls[1]? = some ⟨.delete [97], .done .ok⟩ := by decide +kernel
example : NoMut (run .current cfgA (init [accB, accC]) acts1) [97] := noMutB_sound (by decide +kernel)
example : (run .current cfgA (run .current cfgA (init [accB, accC]) acts1) acts2).calls[2]? = some ⟨.get [97], .done .noSuchUser⟩ := by decide +kernel
/-- … and that is what `lookup_after_ack` says about it (instance of the theorem) -/
example : (Spec.IAM.apply cfgA.root (abs (run .current cfgA (init [accB, accC]) acts1).committed) (.get [97])).2 = .noSuchUser :=
  (lookup_after_ack cfgA [accB, accC] 0 acts1 acts2 startA [97] (noMutB_sound (by decide +kernel))
    (by intro op hop hm; simp [acts2] at hop; subst hop; cases hm) 2 .noSuchUser (by decide +kernel) (by decide +kernel)).symm

/-- `mutations_serialised`: two creates of the same key race; exactly one wins, the log says which (test) -/
example : (run .current cfgA (init []) [.invoke (.create accA), .invoke (.create accB), .step 1, .step 0, .step 1, .step 1, .step 1,
    .step 1, .step 1, .step 1, .step 1, .step 0, .step 0, .step 0, .step 0, .step 0, .step 0]).log
    = [⟨1, .create accB, .ok⟩, ⟨0, .create accA, .userExists⟩] := by decide +kernel

end Examples

end Vgw.Props.C17
