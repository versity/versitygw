/-
  C01 — Stored objects read back byte-identical with their metadata.
  Theorems over `Model.Gw` (the gateway model has no per-process component at all: its state is
  the storage, so nothing in it can depend on which process serves a request or on restarts —
  that part of C01 is a property of the model's *shape*; the correspondence runs spread requests
  over several real processes).
-/
import Vgw.Lemmas.GwHandlers
namespace Vgw.Props.C01
open Vgw Vgw.Model.Gw

/-- what GET shows of an object stored from `p` -/
def stored (p : PutSpec) (vid : Bytes) : Ver := mkVer p vid

/-- **GET after an acknowledged PUT returns exactly what was put** (unversioned configuration):
body segments, size, ETag (the digest the environment computed over the body), content type,
user metadata, content headers, tag count. For every state, key, body and metadata set, every
writer and every reader that is allowed to read. -/
theorem get_after_put (cfg : Cfg) (hv : cfg.versioning = false) (s : State) (w w' : Who) (now : Int)
    (b k : Bytes) (p : PutSpec) (nv : Bytes)
    (hput : (handle cfg s w now (.putObject b k p nv)).2.code = "") :
    ∃ bk', findBucket (handle cfg s w now (.putObject b k p nv)).1 b = some bk' ∧
      (verifyAccess cfg bk' w' .read actGetObject k = none →
        (handle cfg (handle cfg s w now (.putObject b k p nv)).1 w' now (.getObject b k [])).2
          = okR (verFields [] (stored p []) true)) := by
  obtain ⟨bk, hb, _, _, heq⟩ := putObject_ok hput
  rw [heq, putVersions_unversioned hv]
  have hfind : findBucket (setBucket s (bk.setVersions k [mkVer p []])) b = some (bk.setVersions k [mkVer p []]) :=
    findBucket_setBucket_of hb (setVersions_name bk k _)
  refine ⟨_, hfind, fun hread => ?_⟩
  rw [show handle cfg _ w' now (.getObject b k []) = _ from gated_none hfind hread,
    versions_setVersions bk k _ (List.cons_ne_nil _ _)]
  rfl

/-- **HEAD agrees with GET** on size, ETag, content type, metadata and headers: both are rendered
from the same stored version. -/
theorem head_agrees_with_get (v : Ver) :
    (verFields [] v false).filter (fun f => f.1 ≠ "tagcount") =
    ((verFields [] v true).filter (fun f => f.1 ≠ "body" ∧ f.1 ≠ "tagcount")) := by
  simp [verFields]

/-- **A PUT to one key leaves every other bucket exactly as it was.** -/
theorem put_other_bucket_untouched (cfg : Cfg) (s : State) (w : Who) (now : Int) (b k : Bytes) (p : PutSpec)
    (nv : Bytes) (n : Bytes) (hn : (b == n) = false) :
    findBucket (handle cfg s w now (.putObject b k p nv)).1 n = findBucket s n := by
  cases hb : findBucket s b with
  | none => rw [show handle cfg s w now (.putObject b k p nv) = _ from withBucket_none hb]
  | some bk =>
    rw [show handle cfg s w now (.putObject b k p nv) = _ from withBucket_some hb]
    cases verifyAccess cfg bk w .write actPutObject k with
    | some e => rfl
    | none =>
      cases lockCheck bk w now true k [] with
      | some e => rfl
      | none =>
        refine findBucket_setBucket_ne s _ n ?_
        rw [setVersions_name, findBucket_name hb]
        exact hn

/-! non-vacuity -/
def bkt : Bucket := { name := [98], acl := ⟨[114], []⟩ }
def st : State := { buckets := [bkt] }
def spec : PutSpec := { data := [⟨7, 0, 5⟩], etag := [34, 97, 34], umeta := [([99], [100])] }
def root : Who := ⟨[114], true, .admin⟩
example : (handle {} st root 0 (.putObject [98] [107] spec [])).2.code = "" := by decide
example : (handle {} (handle {} st root 0 (.putObject [98] [107] spec [])).1 root 0 (.getObject [98] [107] [])).2
    = okR (verFields [] (stored spec []) true) := rfl

end Vgw.Props.C01
