/-
  C09 — Version history is preserved exactly in versioned buckets.
  Theorems over the version-stack operations of `Model.Gw` (`putVersions`, `deleteOne`,
  `findVer`, the rendering of ListObjectVersions). A stack is the list of versions of one key,
  newest first; the null version has the empty id. Version ids are inputs chosen by the
  environment; freshness of a new id is a hypothesis where it matters.
-/
import Vgw.Lemmas.GwHandlers
namespace Vgw.Props.C09
open Vgw Vgw.Model.Gw

/-- **Every write in an enabled bucket pushes a new version and keeps every existing one.** -/
theorem put_pushes (cfg : Cfg) (b : Bucket) (hc : cfg.versioning = true) (he : b.versioning = .enabled)
    (vs : List Ver) (p : PutSpec) (nv : Bytes) :
    putVersions cfg b vs p nv = (mkVer p nv :: vs, nv) := by
  simp [putVersions, hc, he]

/-- the same for a completed multipart upload -/
theorem complete_pushes (cfg : Cfg) (b : Bucket) (hc : cfg.versioning = true) (he : b.versioning = .enabled)
    (vs : List Ver) (p : PutSpec) (nv : Bytes) :
    completeVersions cfg b vs p nv = (mkVer p nv :: vs, nv) := by
  simp [completeVersions, hc, he]

/-- versioning is in force for key `k`: configured, enabled on the bucket, and `k` is not a
directory key (`deleteOne` treats those as unversioned) -/
def enabledCfg (cfg : Cfg) (b : Bucket) (k : Bytes) : Prop :=
  cfg.versioning = true ∧ b.versioning = .enabled ∧ isDirKey k = false

/-- **A delete without a version id only adds a delete marker** (the key then reads as
missing): every existing version stays, the new top is a marker with the new id. -/
theorem delete_adds_marker (cfg : Cfg) (b : Bucket) (k nv : Bytes) (h : enabledCfg cfg b k)
    (hne : b.versions k ≠ []) :
    (deleteOne cfg b k [] nv).1.versions k = markerOf (b.versions k) nv :: b.versions k ∧
    currentVer ((deleteOne cfg b k [] nv).1.versions k) = none := by
  obtain ⟨hc, he, hd⟩ := h
  have hemp : (b.versions k).isEmpty = false := by
    cases hv : b.versions k with
    | nil => exact absurd hv hne
    | cons _ _ => rfl
  unfold deleteOne
  simp only [hc, he, hd, hemp, Bool.true_and, Bool.not_false, List.isEmpty_nil, if_true, if_false,
    show (VStatus.enabled != VStatus.unset) = true from rfl, show (VStatus.enabled == VStatus.enabled) = true from rfl,
    Bool.false_eq_true]
  rw [versions_setVersions b k _ (by simp)]
  refine ⟨rfl, ?_⟩
  have hm : (markerOf (b.versions k) nv).marker = true := by unfold markerOf; split <;> rfl
  simp [currentVer, hm]

/-- **A delete by version id removes exactly the (first) version with that id** and leaves all
others, in order; with distinct ids (`erase_eq_filter`) that is: exactly the versions with another
id remain. -/
theorem delete_by_id (cfg : Cfg) (b : Bucket) (k vid nv : Bytes) (h : enabledCfg cfg b k)
    (hv : vid ≠ []) (v : Ver) (hf : findVer (b.versions k) vid = some v) :
    (deleteOne cfg b k vid nv).1 = b.setVersions k ((b.versions k).eraseP (·.vid == v.vid)) ∧
    (deleteOne cfg b k vid nv).2.code = "" := by
  obtain ⟨hc, he, hd⟩ := h
  have hvid : vid.isEmpty = false := by cases vid <;> simp_all
  unfold deleteOne
  simp only [hc, he, hd, hvid, hf, Bool.true_and, Bool.not_false, if_true,
    show (VStatus.enabled != VStatus.unset) = true from rfl]
  exact ⟨rfl, rfl⟩

/-- deleting an id that does not exist changes nothing -/
theorem delete_unknown_id (cfg : Cfg) (b : Bucket) (k vid nv : Bytes) (h : enabledCfg cfg b k)
    (hv : vid ≠ []) (hf : findVer (b.versions k) vid = none) :
    (deleteOne cfg b k vid nv).1 = b ∧ (deleteOne cfg b k vid nv).2.code ≠ "" := by
  obtain ⟨hc, he, hd⟩ := h
  have hvid : vid.isEmpty = false := by cases vid <;> simp_all
  unfold deleteOne
  simp only [hc, he, hd, hvid, hf, Bool.true_and, Bool.not_false, if_true,
    show (VStatus.enabled != VStatus.unset) = true from rfl]
  exact ⟨rfl, errR_code_ne _⟩

/-- ids of a stack are pairwise distinct -/
def Distinct (vs : List Ver) : Prop := (vs.map (·.vid)).Nodup

/-- **A fresh id keeps ids distinct** (a new version or marker never collides with an old one). -/
theorem distinct_push (vs : List Ver) (v : Ver) (h : Distinct vs) (hf : ∀ u ∈ vs, u.vid ≠ v.vid) :
    Distinct (v :: vs) := by
  unfold Distinct at *
  simp only [List.map_cons, List.nodup_cons, List.mem_map, not_exists, not_and]
  exact ⟨fun u hu e => hf u hu e, h⟩

theorem distinct_filter (vs : List Ver) (p : Ver → Bool) (h : Distinct vs) : Distinct (vs.filter p) := by
  unfold Distinct at *
  exact (List.Nodup.sublist ((List.filter_sublist).map _) h)

/-- with distinct ids, removing the first version with an id removes every version with it -/
theorem erase_eq_filter (vs : List Ver) (h : Distinct vs) (x : Bytes) :
    vs.eraseP (fun u => u.vid == x) = vs.filter (fun u => u.vid != x) := by
  induction vs with
  | nil => rfl
  | cons y ys ih =>
    have hd := List.nodup_cons.1 (show (y.vid :: ys.map (·.vid)).Nodup from h)
    rw [List.eraseP_cons, List.filter_cons]
    by_cases hy : y.vid = x
    · subst hy
      rw [beq_self_eq_true, bne_self_eq_false, cond_true, if_neg Bool.false_ne_true]
      refine (List.filter_eq_self.mpr fun u hu => ?_).symm
      exact bne_iff_ne.mpr fun e => hd.1 (e ▸ List.mem_map_of_mem hu)
    · rw [beq_false_of_ne hy, (bne_iff_ne.mpr hy : (y.vid != x) = true), cond_false, if_pos rfl, ih hd.2]

/-- **Every version stays retrievable under its own id**: with distinct ids, looking a version of
the stack up by its (wire) id finds exactly that version. -/
theorem findVer_mem (vs : List Ver) (h : Distinct vs) (v : Ver) (hm : v ∈ vs) (hnn : v.vid ≠ nullVid) :
    findVer vs (wireVid v.vid) = some v := by
  unfold findVer
  rw [reqVid_wireVid hnn]
  exact find?_key_of_nodup Ver.vid h hm

/-- **Deleting the newest version or marker re-exposes the previous one.** -/
theorem delete_top_reexposes (v u : Ver) (rest : List Ver) (hd : Distinct (v :: u :: rest)) :
    ((v :: u :: rest).filter (·.vid != v.vid)) = u :: rest.filter (·.vid != v.vid) ∧
    ((v :: u :: rest).filter (·.vid != v.vid)).head? = some u := by
  unfold Distinct at hd
  simp only [List.map_cons, List.nodup_cons, List.mem_cons, List.mem_map, not_or, not_exists, not_and] at hd
  have huv : (u.vid != v.vid) = true := by
    have : u.vid ≠ v.vid := fun e => hd.1.1 e.symm
    simpa using this
  simp [huv]

/-- in the ListObjectVersions rendering exactly the first entry of a key is flagged latest -/
theorem exactly_one_latest (vs : List Ver) :
    (vs.zipIdx.map fun (p : Ver × Nat) => decide (p.2 = 0)) = (List.range vs.length).map (fun i => decide (i = 0)) := by
  rw [List.zipIdx_eq_zip_range']
  apply List.ext_getElem <;> simp

/-! non-vacuity -/
def v1 : Ver := { vid := [49], data := [⟨1, 0, 3⟩] }
def v2 : Ver := { vid := [50], data := [⟨2, 0, 4⟩] }
example : Distinct [v2, v1] := by unfold Distinct; decide
example : findVer [v2, v1] (wireVid v1.vid) = some v1 := by decide
example : ([v2, v1].filter (·.vid != v2.vid)).head? = some v1 := by decide

end Vgw.Props.C09
