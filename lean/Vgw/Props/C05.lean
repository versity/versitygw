/-
  C05 — per-key reads and writes are atomic and linearizable.

  Theorems about the transition system `Model.Conc` (any number of concurrent PUT / COPY /
  multipart-complete / DELETE / GET / HEAD requests on one key, every interleaving of their atomic
  filesystem steps: `Reach` quantifies over all step sequences, the request pool `rqs` is arbitrary).
  There is no process structure in the model (the posix backend keeps no in-process state about
  objects), so the statements cover one gateway process as well as several on the same storage.

  inode_complete_inv, linked_inode_complete and get_body_single_write hold for every configuration `Cfg`.
  The MAIN theorems (section "the code as it is") — get_single_write, overwrite_never_missing,
  linearizable (refinement to the atomic register of Spec.Register), acked_write_published,
  read_after_ack_fresh — are statements about `cur otmp = codeVariant.cfg otmp`, the configuration of
  the code under test with and without O_TMPFILE (the tag set is one of the attributes of an object:
  `Attr.tags`, observed by GET). Their only hypothesis on the start is `KeyLast fs0` (the key's entry,
  if any, is the newest inode). They are instances of theorems by code SHAPE (`…_of_shape`, hypotheses
  on `Cfg`), which also cover the non-Linux build (`portable`).

  The REGRESSION models (`Variant.old`: publication by remove-then-link, reads by path, CopyObject
  failing on its final stat — the code before 4399f3e / 109ae9c / 4e82e48) violate the clauses; the
  witnesses are `example`s in `Open/C05.lean`, and the check reports such behaviour of the real
  gateway as a violation.
-/
import Vgw.Lemmas.ConcLinInv
import Vgw.Lemmas.ConcWitness
import Vgw.Model.ConcHist
import Vgw.Spec.Register
namespace Vgw.Props.C05
open Vgw.Model.Conc

/-- the objects that can legitimately be read: what the key held at the start and the complete
    object of every write request. -/
def IsValue (fs0 : FS) (rqs : List Req) (ino : Inode) : Prop :=
  ino ∈ fs0.inodes ∨ ∃ rq ∈ rqs, rq.kind.isWrite = true ∧ ino = written rq

/-! ## invariants that hold for every variant and every interleaving -/

/-- **Every inode ever published under the key carries the data and ALL attributes of exactly one
write**: the attributes are written through the descriptor before the publication step. -/
theorem inode_complete_inv (c : Cfg) (fs0 : FS) (rqs : List Req) (s : State) (h0 : KeyLast fs0)
    (h : Reach c (init c fs0 rqs) s) : ∀ ino ∈ s.fs.inodes, IsValue fs0 rqs ino :=
  (GInv_reach h0 h).vals

/-- … in particular the inode the key is linked to. -/
theorem linked_inode_complete (c : Cfg) (fs0 : FS) (rqs : List Req) (s : State) (h0 : KeyLast fs0)
    (h : Reach c (init c fs0 rqs) s) (k : Nat) (hk : s.fs.key = some k) :
    ∃ ino, s.fs.inodes[k]? = some ino ∧ IsValue fs0 rqs ino := by
  have g := GInv_reach h0 h
  have := g.last k hk
  have hlt : k < s.fs.inodes.length := by omega
  exact ⟨s.fs.inodes[k], List.getElem?_eq_getElem hlt, g.vals _ (List.getElem_mem hlt)⟩

theorem resp_spec {s : State} {i : Nat} {r : Resp} (h : s.resp i = some r) :
    ∃ rq l, s.reqs[i]? = some (rq, l) ∧ l.result = some r := by
  obtain ⟨rq, l, h1, _, h3⟩ := resp_done h
  exact ⟨rq, l, h1, h3⟩

/-- **The file a successful GET streams is the complete data of exactly one write** — never bytes
of two writes. (How many of its bytes reach the client is decided by the Content-Length, which
comes from a separate `stat`: see `get_single_write_full`.) -/
theorem get_body_single_write (c : Cfg) (fs0 : FS) (rqs : List Req) (s : State) (h0 : KeyLast fs0)
    (h : Reach c (init c fs0 rqs) s) (i : Nat) (r : ReadResp) (b : Blob)
    (hr : s.resp i = some (.read r)) (hb : r.body = some b) :
    ∃ ino, IsValue fs0 rqs ino ∧ b = ino.data := by
  obtain ⟨rq, l, hi, hres⟩ := resp_spec hr
  obtain ⟨ino, hm, e⟩ := (BodyOK_reach h (rq, l) (List.mem_of_getElem? hi)).2 r b hres hb
  exact ⟨ino, inode_complete_inv c fs0 rqs s h0 h ino hm, e⟩

/-! ## the clauses of the property at full strength -/

/-- a successful GET/HEAD answers body (GET), length, ETag and metadata of one and the same write. -/
def get_single_write_full (c : Cfg) : Prop :=
  ∀ (fs0 : FS) (rqs : List Req) (s : State) (i : Nat) (rq : Req) (r : ReadResp),
    KeyLast fs0 → Reach c (init c fs0 rqs) s →
    rqs[i]? = some rq → s.resp i = some (.read r) →
    ∃ ino, IsValue fs0 rqs ino ∧ r = observe ino (rq.kind == .head)

/-- a key that exists and is only being overwritten (no DELETE among the requests) never appears missing. -/
def overwrite_never_missing_full (c : Cfg) : Prop :=
  ∀ (fs0 : FS) (rqs : List Req) (s : State) (i : Nat) (rq : Req),
    KeyLast fs0 → fs0.key ≠ none → (∀ rq ∈ rqs, rq.kind ≠ .delete) → Reach c (init c fs0 rqs) s →
    rqs[i]? = some rq → rq.kind.isRead = true → s.resp i ≠ some .noSuchKey

/-- a read that starts (takes its first step) in a state `s` never looks at an inode older than the
    newest one published up to `s`. -/
def read_views_fresh_full (c : Cfg) : Prop :=
  ∀ (fs0 : FS) (rqs : List Req) (s s' : State) (i : Nat) (rq rq' : Req) (l l' : Local),
    KeyLast fs0 → Reach c (init c fs0 rqs) s → Reach c s s' →
    s.reqs[i]? = some (rq, l) → l.views = [] → s'.reqs[i]? = some (rq', l') →
    (∀ v, some v ∈ l'.views → s.fs.inodes.length ≤ v + 1) ∧
    (∀ k, l'.fd = some k → l.fd = none → s.fs.inodes.length ≤ k + 1)

/-- a read that starts after a write was acknowledged never returns older data: if write `j` has
    answered 200 in state `s` and reader `i` has not taken a step yet in `s`, then whatever `i`
    answers later is the whole object of an inode published not before `j`'s (inode ids are in
    publication order). -/
def read_after_ack_fresh_full (c : Cfg) : Prop :=
  ∀ (fs0 : FS) (rqs : List Req) (s s' : State) (i j : Nat) (rqi rqj : Req) (r : ReadResp),
    KeyLast fs0 → Reach c (init c fs0 rqs) s → Reach c s s' →
    rqs[j]? = some rqj → rqj.kind.isWrite = true → s.resp j = some .ok →
    s.reqs[i]? = some (rqi, { prog := program c rqi }) → s'.resp i = some (.read r) →
    ∃ (p k : Nat) (ino : Inode), s.fs.inodes[p]? = some (written rqj) ∧ s'.fs.inodes[k]? = some ino ∧ p ≤ k ∧
      r = observe ino (rqi.kind == .head)

/-- an acknowledged write has been published: its complete object is in the inode table. -/
def acked_write_published_full (c : Cfg) : Prop :=
  ∀ (fs0 : FS) (rqs : List Req) (s : State) (j : Nat) (rqj : Req),
    KeyLast fs0 → Reach c (init c fs0 rqs) s → rqs[j]? = some rqj → rqj.kind.isWrite = true →
    s.resp j = some .ok → written rqj ∈ s.fs.inodes

/-- the answers of all requests are explained by ONE order that respects real time: the history of
    every run (operations, invocation = first step, response = last step, answers) is linearizable
    with respect to the atomic register holding the complete object of one write (Spec.Register);
    a reader's answer must be `observe` of the register's value. -/
def linearizable_full (c : Cfg) : Prop :=
  ∀ (fs0 : FS) (rqs : List Req) (s : State), KeyLast fs0 → Reach c (init c fs0 rqs) s →
    Vgw.Spec.Register.Linearizable observe fs0.cur (histOf rqs s)

/-! ## theorems by code shape -/

theorem req_of_index {fs0 : FS} {rqs : List Req} {s : State} (g : GInv fs0 rqs s) {i : Nat} {rq rq' : Req} {l : Local}
    (hi : rqs[i]? = some rq) (hi' : s.reqs[i]? = some (rq', l)) : rq' = rq := by
  have := g.reqs i rq' l hi'
  rw [hi] at this; exact (Option.some.inj this).symm

/-- Never missing, by shape: publication that never removes the name (`otmp`: linkat into a free name,
else link to a temp name and rename over the object; `mktemp`: rename; `portable`), whatever the read
mode. -/
theorem overwrite_never_missing_of_shape (c : Cfg) (hs : c.strat = .otmp ∨ c.strat = .mktemp ∨ c.strat = .portable) :
    overwrite_never_missing_full c := by
  intro fs0 rqs s i rq h0 hk hd hreach hi hrd hresp
  obtain ⟨g, nm⟩ := NMInv_reach hs h0 hk hd hreach
  obtain ⟨rq', l, hi', hres⟩ := resp_spec hresp
  obtain rfl := req_of_index g hi hi'
  exact ((nm i rq' l hi').rd hrd).2 hres

/-- Single write, by shape: reads through the descriptor (open first, then fstat and the attributes of
the opened file), with every publication strategy. -/
theorem get_single_write_of_shape (c : Cfg) (hm : c.rmode = .byFd) : get_single_write_full c := by
  intro fs0 rqs s i rq r h0 hreach hi hresp
  obtain ⟨rq', l, hi', hres⟩ := resp_spec hresp
  obtain ⟨g, k, ino, _, a2, e⟩ := read_answer_reach hm h0 hreach hi' hres
  obtain rfl := req_of_index g hi hi'
  exact ⟨ino, g.vals ino (List.mem_of_getElem? a2), e⟩

/-- Linearizable, by shape: publication that never removes the name and reads through the descriptor.
Linearization points: a successful linkat or the rename of a write, the unlink (or the stat that
finds nothing) of a DELETE, the open of a read. -/
theorem linearizable_of_shape (c : Cfg) (hs : c.strat = .otmp ∨ c.strat = .mktemp ∨ c.strat = .portable) (hm : c.rmode = .byFd) :
    linearizable_full c := by
  intro fs0 rqs s h0 hreach
  obtain ⟨g, K⟩ := KindInv_reach hs hm h0 hreach
  exact linearizable_of_inv g (fun i rq l hi => (K i rq l hi).1) (LInv_reach hs hm h0 hreach)

/-- Freshness of what a read looks at, for every variant: whatever a read that starts in a state with `n`
inodes looks at or opens is the key's entry of that moment, an inode of id at least `n - 1`. -/
theorem read_views_fresh (c : Cfg) : read_views_fresh_full c := by
  intro fs0 rqs s s' i rq rq' l l' h0 hr hr' hi hv hi'
  exact views_fresh (GInv_reach h0 hr).last hr' hi hv hi'

/-- Acknowledged ⇒ published, by shape. -/
theorem acked_write_published_of_shape (c : Cfg) (hs : c.strat = .otmp ∨ c.strat = .mktemp ∨ c.strat = .portable)
    (hm : c.rmode = .byFd) : acked_write_published_full c := by
  intro fs0 rqs s j rqj h0 hreach hj hw hresp
  obtain ⟨g, K⟩ := KindInv_reach hs hm h0 hreach
  obtain ⟨rq', l, hi', hdone, _⟩ := resp_done hresp
  obtain rfl := req_of_index g hj hi'
  exact (K j rq' l hi').2 hw (passed_of_done hdone)

/-- Read-after-acknowledge freshness, by shape. -/
theorem read_after_ack_fresh_of_shape (c : Cfg) (hs : c.strat = .otmp ∨ c.strat = .mktemp ∨ c.strat = .portable)
    (hm : c.rmode = .byFd) : read_after_ack_fresh_full c := by
  intro fs0 rqs s s' i j rqi rqj r h0 hr hr' hj hw hack hi hresp
  have hpub := acked_write_published_of_shape c hs hm fs0 rqs s j rqj h0 hr hj hw hack
  obtain ⟨p, hp⟩ := List.getElem?_of_mem hpub
  have hplt : p < s.fs.inodes.length := (List.getElem?_eq_some_iff.1 hp).1
  have hreach' := Reach.trans hr hr'
  obtain ⟨rq', l', hi', hres⟩ := resp_spec hresp
  obtain ⟨g', k, ino, a1, a2, e⟩ := read_answer_reach hm h0 hreach' hi' hres
  -- the request at index i is the same request in s and s'
  obtain rfl := req_of_index g' ((GInv_reach h0 hr).reqs i rqi _ hi) hi'
  have hfresh := (read_views_fresh c fs0 rqs s s' i rq' rq' _ l' h0 hr hr' hi rfl hi').2 k a1 rfl
  exact ⟨p, k, ino, hp, a2, by omega, e⟩

/-! ## the code as it is — the main theorems -/

/-- the configuration of the code under test, with (`true`) and without (`false`, `--disableotmp`) O_TMPFILE. -/
def cur (otmp : Bool) : Cfg := codeVariant.cfg otmp

theorem cur_shape (otmp : Bool) :
    ((cur otmp).strat = .otmp ∨ (cur otmp).strat = .mktemp ∨ (cur otmp).strat = .portable) ∧ (cur otmp).rmode = .byFd := by
  cases otmp <;> simp [cur, codeVariant, Variant.cfg]

/-- **Every successful GET/HEAD answers body, length, ETag and metadata of one and the same write** —
for any number of concurrent writers, deleters and readers of the key and every interleaving. -/
theorem get_single_write (otmp : Bool) : get_single_write_full (cur otmp) :=
  get_single_write_of_shape _ (cur_shape otmp).2

/-- **A key that exists and is only being overwritten never appears missing.** -/
theorem overwrite_never_missing (otmp : Bool) : overwrite_never_missing_full (cur otmp) :=
  overwrite_never_missing_of_shape _ (cur_shape otmp).1

/-- **All outcomes are explained by one order that respects real time**: every run's history is
linearizable with respect to the atomic register holding the complete object of one write. -/
theorem linearizable (otmp : Bool) : linearizable_full (cur otmp) :=
  linearizable_of_shape _ (cur_shape otmp).1 (cur_shape otmp).2

/-- **An acknowledged write has been published** (its complete object is in the inode table). -/
theorem acked_write_published (otmp : Bool) : acked_write_published_full (cur otmp) :=
  acked_write_published_of_shape _ (cur_shape otmp).1 (cur_shape otmp).2

/-- **A read that starts after a write was acknowledged never returns older data.** -/
theorem read_after_ack_fresh (otmp : Bool) : read_after_ack_fresh_full (cur otmp) :=
  read_after_ack_fresh_of_shape _ (cur_shape otmp).1 (cur_shape otmp).2

/-! ## non-vacuity (tests on concrete runs, not proofs of the clauses) -/

/-- a PUT over an existing object, a GET after it: the published inode is B's whole object and the
    GET answers exactly B. -/
example :
    let wA : Write := { blob := ⟨1, 3⟩, attrs := [(.umeta 0, 1), (.etag, 1)] }
    let wB : Write := { blob := ⟨2, 5⟩, attrs := [(.umeta 0, 2), (.checksums, 2), (.etag, 2), (.ctype, 2)] }
    let c : Cfg := cur true
    let s := run c (init c { inodes := [inodeOf wA], key := some 0 } [{ kind := .put, w := wB }, { kind := .get }])
              (List.replicate 12 0 ++ List.replicate 16 1)
    s.fs.inodes[1]? = some (inodeOf wB) ∧ s.resp 1 = some (.read (observe (inodeOf wB) false)) := by decide +kernel

/-- tags are part of the object: an upload with a tag set against a write without one — whichever is
    published last, the GET answers body, ETag, metadata AND tag set of that one write. -/
example :
    let wA : Write := { blob := ⟨1, 3⟩, attrs := [(.etag, 1)] }
    let wM : Write := { blob := ⟨2, 5⟩, attrs := [(.umeta 0, 2), (.tags, 2), (.etag, 2)] }
    let wP : Write := { blob := ⟨3, 4⟩, attrs := [(.checksums, 3), (.etag, 3)] }
    let c : Cfg := cur true
    let s := run c (init c { inodes := [inodeOf wA], key := some 0 }
                  [{ kind := .mpu, w := wM }, { kind := .put, w := wP }, { kind := .get }])
              (List.replicate 8 0 ++ List.replicate 9 1 ++ [0, 0, 0] ++ List.replicate 16 2)
    s.resp 2 = some (.read (observe (written { kind := .mpu, w := wM }) false)) ∧
    (observe (written { kind := .mpu, w := wM }) false).tags = some 2 := by decide +kernel

/-- the code's publication: a GET that starts in the middle of the overwrite (one schedule) finds the key. -/
example :
    let wA : Write := { blob := ⟨1, 3⟩, attrs := [(.etag, 1)] }
    let wB : Write := { blob := ⟨2, 5⟩, attrs := [(.etag, 2)] }
    let c : Cfg := cur true
    let s := run c (init c { inodes := [inodeOf wA], key := some 0 } [{ kind := .put, w := wB }, { kind := .get }])
              ([0, 0, 0, 0, 0, 0] ++ List.replicate 16 1)
    s.resp 1 = some (.read (observe (inodeOf wA) false)) := by decide +kernel

/-- the schedule that tears a by-path read (Open/C05): the code as it is answers exactly A, and the
    read is linearized before the overwrite. -/
example :
    let wA : Write := { blob := ⟨1, 1⟩, attrs := [(.umeta 0, 1), (.etag, 1)] }
    let wB : Write := { blob := ⟨2, 1⟩, attrs := [(.umeta 0, 2), (.etag, 2)] }
    let c : Cfg := cur true
    let s := run c (init c { inodes := [inodeOf wA], key := some 0 } [{ kind := .put, w := wB }, { kind := .get }])
              ([1, 1, 1, 1] ++ List.replicate 12 0 ++ List.replicate 12 1)
    s.resp 1 = some (.read (observe (inodeOf wA) false)) ∧ s.resp 0 = some .ok ∧
    (ptsT s.trace).map (·.2) = [1, 0] := by decide +kernel

end Vgw.Props.C05
