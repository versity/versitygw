/-
  C14: ValidatePolicyDocument against Spec.Policy.WellFormed — statement level and document level.
-/
import Vgw.Lemmas.Validate
namespace Vgw.Lemmas.Validate
open Vgw Vgw.Go.Strings Vgw.Model.Policy Vgw.Spec.Policy Vgw.Lemmas.Policy

/-- an iteration order visits exactly the members of the set (weaker than a permutation: how often
is left open) -/
def OrdOK (ord : List Bytes → List Bytes) : Prop := ∀ l a, a ∈ ord l ↔ a ∈ l

theorem decodeStmt_ok_iff {r : RawStmt} {st : Stmt} :
    decodeStmt r = .ok st ↔
      (decodeEffect r.effect = .ok st.effect ∧
       decodeField .invalidPrincipal (fun s => .ok s) r.principal = .ok st.principals ∧
       decodeField .invalidAction addAction r.action = .ok st.actions ∧
       decodeField .invalidResource addResource r.resource = .ok st.resources) := by
  unfold decodeStmt
  simp only [bind_ok]
  constructor
  · rintro ⟨_, he, _, hp, _, ha, _, hr, h⟩; cases h; exact ⟨he, hp, ha, hr⟩
  · rintro ⟨he, hp, ha, hr⟩; exact ⟨_, he, _, hp, _, ha, _, hr, rfl⟩

theorem validateStmt_ok_iff {bucket : Bytes} {acct : Bytes → Bool} {st : Stmt} :
    validateStmt bucket acct st = .ok () ↔
      (effectValidate st.effect = .ok () ∧
       (st.principals ≠ [] ∧ st.actions ≠ [] ∧ st.resources ≠ []) ∧
       principalsValidate acct st.principals = .ok () ∧
       resourcesValidate bucket st.resources = .ok () ∧
       kindLoop (containsObjectPattern st.resources) (containsBucketPattern st.resources) st.actions = .ok ()) := by
  unfold validateStmt
  rw [bind_ok_unit, ite_error_ok, ite_error_ok, ite_error_ok, bind_ok_unit, bind_ok_unit]
  simp only [List.length_eq_zero_iff, and_assoc]

theorem validatePolicy_cons {bucket : Bytes} {acct : Bytes → Bool} {st : Stmt} {rest : Policy} :
    validatePolicy bucket acct (st :: rest) = .ok () ↔
      (validateStmt bucket acct st = .ok () ∧ validatePolicy bucket acct rest = .ok ()) := by
  rw [validatePolicy, bind_ok_unit]

theorem decodeStmts_cons {r : RawStmt} {rest : List RawStmt} {pol : Policy} :
    decodeStmts (r :: rest) = .ok pol ↔
      ∃ st sts, decodeStmt r = .ok st ∧ decodeStmts rest = .ok sts ∧ pol = st :: sts := by
  rw [decodeStmts]
  simp only [bind_ok]
  constructor
  · rintro ⟨st, h1, sts, h2, h⟩; cases h; exact ⟨st, sts, h1, h2, rfl⟩
  · rintro ⟨st, sts, h1, h2, rfl⟩; exact ⟨st, h1, sts, h2, rfl⟩

theorem reorder_cons (ord : List Bytes → List Bytes) (st : Stmt) (sts : Policy) :
    reorder ord (st :: sts) = { st with actions := ord st.actions } :: reorder ord sts := rfl

theorem effect_iff {f : Field} {e : Bytes} :
    decodeEffect f = .ok e ∧ effectValidate e = .ok () ↔ f = .str e ∧ (e = allowLit ∨ e = denyLit) := by
  rw [effectValidate, ite_ok_error]
  cases f with
  | str s => simp [decodeEffect]
  | missing =>
    simp only [decodeEffect, Except.ok.injEq, reduceCtorEq, false_and, iff_false, not_and]
    rintro rfl; decide
  | _ => simp [decodeEffect]

theorem resources_ok_iff (bucket : Bytes) (pats : List Bytes) :
    resourcesValidate bucket pats = .ok () ↔
      ∀ p ∈ pats, p = bucket ∨ (bucket ++ slashLit) <+: p := by
  unfold resourcesValidate
  have key : ∀ p : Bytes, (!(decide (p ≠ bucket) && !hasPrefix p (bucket ++ slashLit))) = true ↔
      (p = bucket ∨ (bucket ++ slashLit) <+: p) := by
    intro p
    rw [← hasPrefix_iff]
    cases hasPrefix p (bucket ++ slashLit) <;> by_cases e : p = bucket <;> simp [e]
  rw [ite_ok_error, List.all_eq_true]
  simp only [key]

/-- the right side is the test of `Resources.Validate` -/
theorem inBucket_iff (bucket : Bytes) {x p : Bytes} (hv : isValidResource x = some p) :
    InBucket bucket x ↔ p = bucket ∨ (bucket ++ slashLit) <+: p := by
  obtain ⟨rfl, _, _⟩ := isValidResource_some.1 hv
  unfold InBucket IsBucketRes IsObjectRes
  rw [List.append_cancel_left_eq, List.append_assoc, List.prefix_append_right_inj]
  rfl

theorem resources_inBucket_iff (bucket : Bytes) {rs pats : List Bytes} (hst : Stored rs pats)
    (hp : ∀ r ∈ rs, ∃ p, isValidResource r = some p) :
    resourcesValidate bucket pats = .ok () ↔ ∀ r ∈ rs, InBucket bucket r := by
  rw [resources_ok_iff]
  constructor
  · intro h r hr
    obtain ⟨p, hv⟩ := hp r hr
    exact (inBucket_iff bucket hv).2 (h p ((hst p).2 ⟨r, hr, hv⟩))
  · intro h p hpm
    obtain ⟨r, hr, hv⟩ := (hst p).1 hpm
    exact (inBucket_iff bucket hv).1 (h r hr)

theorem ne_nil_of_mem_iff {ks l : List Bytes} (h : ∀ k, k ∈ ks ↔ k ∈ l) (hl : l ≠ []) : ks ≠ [] := by
  obtain ⟨x, hx⟩ := List.exists_mem_of_ne_nil l hl
  exact List.ne_nil_of_mem ((h x).2 hx)

/-- `h0`: the hooks refuse the empty string -/
theorem decodeField_of_members {empty : VErr} {add : Bytes → Except VErr Bytes} {fld : Field}
    {l : List Bytes} (hm : members fld = some l) (h0 : [] ∉ l) (hadd : ∀ s ∈ l, ∃ k, add s = .ok k) :
    ∃ ks, decodeField empty add fld = .ok ks ∧ addAll add l = .ok ks := by
  obtain ⟨ks, hks⟩ := addAll_total add hadd
  refine ⟨ks, decodeField_ok_iff.2 (Or.inr ⟨?_, l, hm, hks⟩), hks⟩
  rintro rfl; cases hm; exact h0 (List.mem_singleton.2 rfl)

theorem stmt_accept (ord : List Bytes → List Bytes) (bucket : Bytes) (acct : Bytes → Bool)
    (hs : Sane bucket) (hacct : acct [] = false) (hord : OrdOK ord) (r : RawStmt)
    (hwf : StmtWF .strict bucket acct r) :
    ∃ st, decodeStmt r = .ok st ∧
      validateStmt bucket acct { st with actions := ord st.actions } = .ok () := by
  unfold StmtWF at hwf
  obtain ⟨heff, hrest⟩ := hwf
  split at hrest
  · rename_i ps acts rs hmp hma hmr
    obtain ⟨hP, hA, hR, hK⟩ := hrest
    have hvalid : ∀ a ∈ acts, actionIsValid a = true := fun a ha => valid_of_strict (hA a ha)
    have hpat : ∀ x ∈ rs, ∃ p, isValidResource x = some p := fun x hx =>
      (pattern_kind hs (hR x hx)).elim fun p h => ⟨p, h.1⟩
    obtain ⟨kp, hdp, hkp⟩ := decodeField_of_members (empty := .invalidPrincipal) hmp
      (fun h => hP.elim (fun hP => nomatch hP [] h) fun hP => nomatch hacct.symm.trans (hP [] h).2)
      fun s _ => ⟨s, rfl⟩
    obtain ⟨ka, hda, hka⟩ := decodeField_of_members (empty := .invalidAction) hma
      (fun h => nomatch actionIsValid_nil.symm.trans (hvalid [] h))
      fun a ha => ⟨a, addAction_ok_iff.2 ⟨hvalid a ha, rfl⟩⟩
    obtain ⟨kr, hdr, hkr⟩ := decodeField_of_members (empty := .invalidResource) hmr
      (fun h => (hpat [] h).elim fun _ h => nomatch h)
      fun x hx => (hpat x hx).elim fun p h => ⟨p, addResource_ok_iff.2 h⟩
    obtain ⟨hkp_mem, hkp_nd⟩ := addAll_principals hkp
    obtain ⟨hka_mem, _⟩ := addAll_actions hka
    obtain ⟨hstored, _⟩ := addAll_resources hkr
    have hoa : ∀ k, k ∈ ord ka ↔ k ∈ acts := fun k => (hord ka k).trans (hka_mem k)
    have hkp_ne := ne_nil_of_mem_iff hkp_mem (members_ne_nil hmp)
    obtain ⟨e, he, hee⟩ : ∃ e, r.effect = .str e ∧ (e = allowLit ∨ e = denyLit) :=
      heff.elim (fun h => ⟨_, h, Or.inl rfl⟩) fun h => ⟨_, h, Or.inr rfl⟩
    obtain ⟨hde, hve⟩ := effect_iff.2 ⟨he, hee⟩
    refine ⟨⟨e, kp, ka, kr⟩, decodeStmt_ok_iff.2 ⟨hde, hdp, hda, hdr⟩,
      validateStmt_ok_iff.2 ⟨hve, ⟨hkp_ne, ?_, ?_⟩, ?_, ?_, ?_⟩⟩
    · exact ne_nil_of_mem_iff hoa (members_ne_nil hma)
    · obtain ⟨x, hx⟩ := List.exists_mem_of_ne_nil rs (members_ne_nil hmr)
      exact (hpat x hx).elim fun p hp => List.ne_nil_of_mem ((hstored p).2 ⟨x, hx, hp⟩)
    · exact (principals_ok_iff acct hkp_nd hkp_ne).2 ((principalsOK_congr acct hkp_mem).2 hP)
    · exact (resources_inBucket_iff bucket hstored hpat).2 hR
    · rw [kindLoop_ok_iff]
      intro a ha
      have hmem := (hoa a).1 ha
      exact step_of_strict hs hR hstored (hA a hmem) (hK a hmem)
  · exact hrest.elim

theorem stmt_accepted_lenient (ord : List Bytes → List Bytes) (bucket : Bytes) (acct : Bytes → Bool)
    (hs : Sane bucket) (hord : OrdOK ord) (r : RawStmt) (st : Stmt)
    (hd : decodeStmt r = .ok st)
    (hv : validateStmt bucket acct { st with actions := ord st.actions } = .ok ()) :
    StmtWF .lenient bucket acct r := by
  obtain ⟨hde, hdp, hda, hdr⟩ := decodeStmt_ok_iff.1 hd
  obtain ⟨hve, ⟨hnp, hna, hnr⟩, hvp, hvr, hvk⟩ := validateStmt_ok_iff.1 hv
  dsimp only at hve hvp hvr hvk hnp hna hnr
  have hna' : st.actions ≠ [] := ne_nil_of_mem_iff (fun k => (hord _ k).symm) hna
  obtain ⟨_, ps, hmp, hap⟩ := (decodeField_ok_iff.1 hdp).resolve_left fun h => hnp h.2
  obtain ⟨_, acts, hma, haa⟩ := (decodeField_ok_iff.1 hda).resolve_left fun h => hna' h.2
  obtain ⟨_, rs, hmr, har⟩ := (decodeField_ok_iff.1 hdr).resolve_left fun h => hnr h.2
  obtain ⟨hp_mem, hp_nd⟩ := addAll_principals hap
  obtain ⟨ha_mem, hvalid⟩ := addAll_actions haa
  obtain ⟨hstored, hpat⟩ := addAll_resources har
  have hR : ∀ x ∈ rs, InBucket bucket x := (resources_inBucket_iff bucket hstored hpat).1 hvr
  obtain ⟨he, hee⟩ := effect_iff.1 ⟨hde, hve⟩
  unfold StmtWF
  refine ⟨hee.elim (fun e => Or.inl (e ▸ he)) fun e => Or.inr (e ▸ he), ?_⟩
  rw [hmp, hma, hmr]
  refine ⟨(principalsOK_congr acct hp_mem).1 ((principals_ok_iff acct hp_nd hnp).1 hvp),
    fun a ha => lenient_of_valid (hvalid a ha), hR, fun a ha => ?_⟩
  -- every action was checked: the loop `continue`s at `s3:*`
  exact lenient_of_step hs hR hstored (hvalid a ha)
    ((kindLoop_ok_iff st.resources (ord st.actions)).1 hvk a ((hord _ a).2 ((ha_mem a).2 ha)))

theorem decodeStmts_length {l : List RawStmt} {pol : Policy} (h : decodeStmts l = .ok pol) :
    pol.length = l.length := by
  induction l generalizing pol with
  | nil => cases h; rfl
  | cons r rest ih =>
    obtain ⟨st, sts, _, h2, rfl⟩ := decodeStmts_cons.1 h
    exact congrArg Nat.succ (ih h2)

theorem stmts_ok_iff (ord : List Bytes → List Bytes) (bucket : Bytes) (acct : Bytes → Bool)
    (l : List RawStmt) :
    (∃ pol, decodeStmts l = .ok pol ∧ validatePolicy bucket acct (reorder ord pol) = .ok ()) ↔
      ∀ r ∈ l, ∃ st, decodeStmt r = .ok st ∧
        validateStmt bucket acct { st with actions := ord st.actions } = .ok () := by
  induction l with
  | nil => exact ⟨fun _ _ h => (nomatch h), fun _ => ⟨[], rfl, rfl⟩⟩
  | cons r rest ih =>
    rw [List.forall_mem_cons, ← ih]
    constructor
    · rintro ⟨pol, hd, hv⟩
      obtain ⟨st, sts, hd1, hd2, rfl⟩ := decodeStmts_cons.1 hd
      rw [reorder_cons, validatePolicy_cons] at hv
      exact ⟨⟨st, hd1, hv.1⟩, sts, hd2, hv.2⟩
    · rintro ⟨⟨st, hd1, hv1⟩, sts, hd2, hv2⟩
      exact ⟨st :: sts, decodeStmts_cons.2 ⟨st, sts, hd1, hd2, rfl⟩,
        validatePolicy_cons.2 ⟨hv1, hv2⟩⟩

theorem validateDocument_ok_iff (ord : List Bytes → List Bytes) (bucket : Bytes)
    (acct : Bytes → Bool) (l : List RawStmt) :
    validateDocument ord bucket acct (.stmts l) = .ok () ↔
      l ≠ [] ∧ ∀ r ∈ l, ∃ st, decodeStmt r = .ok st ∧
        validateStmt bucket acct { st with actions := ord st.actions } = .ok () := by
  unfold validateDocument
  rw [bind_ok, ← stmts_ok_iff]
  simp only [ite_error_ok]
  constructor
  · rintro ⟨pol, hd, h0, hv⟩
    exact ⟨fun e => h0 (by rw [decodeStmts_length hd, e]; rfl), pol, hd, hv⟩
  · rintro ⟨hne, pol, hd, hv⟩
    refine ⟨pol, hd, ?_, hv⟩
    rw [decodeStmts_length hd]
    exact fun h => hne (List.eq_nil_of_length_eq_zero h)

end Vgw.Lemmas.Validate
