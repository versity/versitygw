/-
  Closed form of the fold of the state updates: with room for `n` entries the result holds the first
  `n` emissions, `truncated` iff there are more, `newMarker` the marker recorded with the `n`-th.
-/
import Vgw.Lemmas.Walk
namespace Vgw.Model.Walk
open Vgw

/-- what an invocation adds to the listing -/
inductive Em where
  | obj (o : Obj) (mk : Bytes)
  | cp (name : Bytes)
  deriving Repr, DecidableEq

def Act.em? : Act → Option Em
  | .obj o mk _ => some (.obj o mk)
  | .cp n _ => some (.cp n)
  | _ => none

def Em.mk : Em → Bytes
  | .obj _ mk => mk
  | .cp n => n

def emObjs (l : List Em) : List Obj := l.filterMap fun | .obj o _ => some o | .cp _ => none
def emCps (l : List Em) : List Bytes := l.filterMap fun | .obj _ _ => none | .cp n => some n
def lastMk (l : List Em) : Bytes := (l.getLast?.map Em.mk).getD []

def ems (acts : List Act) : List Em := acts.filterMap Act.em?

theorem emObjs_append (a b : List Em) : emObjs (a ++ b) = emObjs a ++ emObjs b := List.filterMap_append

theorem emCps_append (a b : List Em) : emCps (a ++ b) = emCps a ++ emCps b := List.filterMap_append

theorem lastMk_cons (e : Em) (l : List Em) (h : l ≠ []) : lastMk (e :: l) = lastMk l := by
  unfold lastMk
  rw [List.getLast?_cons_of_ne_nil h]

theorem setInsert_not_mem (k : Bytes) (m : List Bytes) (h : k ∉ m) : setInsert k m = m ++ [k] := by
  unfold setInsert
  simp [h]

def St.push (s : St) (e : Em) : St :=
  { s with objects := s.objects ++ emObjs [e], cps := s.cps ++ emCps [e] }

theorem St.push_count (s : St) (e : Em) :
    (s.push e).objects.length + (s.push e).cps.length = s.objects.length + s.cps.length + 1 := by
  cases e <;> simp [St.push, emObjs, emCps] <;> omega

theorem apply_of_em_none (c : Cfg) (s : St) (a : Act) (h : a.em? = none) :
    (apply c s a).1 = s ∨ (apply c s a).1 = { s with pastMarker := true } := by
  cases a with
  | ret r => exact Or.inl rfl
  | past r => exact Or.inr rfl
  | obj o mk r => cases h
  | cp n r => cases h

theorem apply_of_em_some (c : Cfg) (s : St) (a : Act) (e : Em) (h : a.em? = some e)
    (hnew : ∀ n, e = .cp n → n ∉ s.cps) :
    (apply c s a).1 = if s.pastMax then { s with truncated := true } else bump c (s.push e) e.mk := by
  cases a with
  | ret r => cases h
  | past r => cases h
  | obj o mk r =>
    cases h
    rw [apply_obj_eq]
    split
    · rfl
    · simp [St.push, emObjs, emCps, Em.mk]
  | cp n r =>
    cases h
    rw [apply_cp_eq, setInsert_not_mem n s.cps (hnew n rfl)]
    split
    · rfl
    · simp [St.push, emObjs, emCps, Em.mk]

structure Closed (s r : St) (E : List Em) (n : Nat) : Prop where
  objects : r.objects = s.objects ++ emObjs (E.take n)
  cps : r.cps = s.cps ++ emCps (E.take n)
  truncated : r.truncated = decide (n < E.length)
  newMarker : r.newMarker = if n = 0 then s.newMarker else if n ≤ E.length then lastMk (E.take n) else s.newMarker

theorem Closed.nil (s : St) (n : Nat) (ht : s.truncated = false) : Closed s s [] n :=
  ⟨by simp [emObjs], by simp [emCps], by simp [ht], by cases n <;> simp⟩

theorem Closed.cons {s s1 r : St} {E : List Em} {e : Em} {n : Nat}
    (ho : s1.objects = s.objects ++ emObjs [e]) (hc : s1.cps = s.cps ++ emCps [e])
    (hm : s1.newMarker = if n = 0 then e.mk else s.newMarker)
    (h : Closed s1 r E n) : Closed s r (e :: E) (n + 1) := by
  refine ⟨?_, ?_, ?_, ?_⟩
  · rw [h.objects, ho, List.take_succ_cons, List.append_assoc, ← emObjs_append]; rfl
  · rw [h.cps, hc, List.take_succ_cons, List.append_assoc, ← emCps_append]; rfl
  · rw [h.truncated]; simp
  · rw [h.newMarker, hm, List.take_succ_cons]
    cases n with
    | zero => simp [lastMk]
    | succ m =>
      by_cases hl : m + 1 ≤ E.length
      · have : E.take (m + 1) ≠ [] := by
          intro h0
          have := congrArg List.length h0
          rw [List.length_take, List.length_nil] at this; omega
        simp [hl, lastMk_cons _ _ this]
      · simp [hl]

/-- `n` is the room left on the page. The common prefixes to come must be new and distinct: only then
is `setInsert` an append -/
theorem runA_closed (c : Cfg) (N : Nat) (hmax : c.max = (N : Int)) : ∀ (acts : List Act) (s : St) (n : Nat),
    s.truncated = false →
    s.objects.length + s.cps.length + n = N →
    (s.pastMax = true ↔ n = 0) →
    (s.cps ++ emCps (ems acts)).Nodup →
    Closed s (runA c s acts) (ems acts) n
  | [], s, n, ht, _, _, _ => Closed.nil s n ht
  | a :: acts, s, n, ht, hn, hpm, hnd => by
    rw [runA_cons, stepA_of_not_truncated c s a ht]
    cases he : a.em? with
    | none =>
      have hE : ems (a :: acts) = ems acts := by simp [ems, he]
      rw [hE] at hnd ⊢
      rcases apply_of_em_none c s a he with h | h
      · rw [h]; exact runA_closed c N hmax acts s n ht hn hpm hnd
      · rw [h]
        have := runA_closed c N hmax acts { s with pastMarker := true } n ht hn hpm hnd
        exact ⟨this.objects, this.cps, this.truncated, this.newMarker⟩
    | some e =>
      have hE : ems (a :: acts) = [e] ++ ems acts := by simp [ems, he]
      rw [hE] at hnd ⊢
      rw [emCps_append, ← List.append_assoc] at hnd
      have hnew : ∀ n, e = .cp n → n ∉ s.cps := by
        rintro n rfl hm
        exact (List.nodup_append.1 (List.nodup_append.1 hnd).1).2.2 n hm n (by simp [emCps]) rfl
      rw [apply_of_em_some c s a e he hnew]
      cases n with
      | zero =>
        rw [if_pos (hpm.2 rfl), runA_truncated c acts _ rfl]
        exact ⟨by simp [emObjs], by simp [emCps], by simp, by simp⟩
      | succ m =>
        have hp : s.pastMax = false := by
          cases h : s.pastMax with
          | false => rfl
          | true => exact absurd (hpm.1 h) (Nat.succ_ne_zero m)
        rw [hp, if_neg Bool.false_ne_true]
        have hcnt : (s.push e).objects.length + (s.push e).cps.length + m = N := by
          rw [St.push_count, Nat.add_assoc, Nat.add_comm 1 m]; exact hn
        obtain ⟨hfull, hmk⟩ := bump_full c N hmax (s.push e) e.mk m hp hcnt
        exact Closed.cons (by rw [bump_objects]; rfl) (by rw [bump_cps]; rfl) hmk
          (runA_closed c N hmax acts (bump c (s.push e) e.mk) m (by rw [bump_truncated]; exact ht)
            (by rw [bump_objects, bump_cps]; exact hcnt) hfull (by rw [bump_cps]; exact hnd))

end Vgw.Model.Walk
