/-
  The prefix that the branches of `handle` share (bucket lookup, access gate) and how a fact about
  the handler behind it passes through; what read-only mode does to every operation.
-/
import Vgw.Lemmas.GwMaps
namespace Vgw.Model.Gw
open Vgw

variable {cfg : Cfg} {s : State} {w : Who} {now : Int} {b : Bytes} {bk : Bucket} {e : String}
  {c : Option String} {k : Unit → State × Resp} {kb : Bucket → State × Resp}
  {chk : Bucket → Option String} {kg : Bucket → Unit → State × Resp}

theorem withBucket_none (h : findBucket s b = none) : withBucket s b kb = (s, errR "NoSuchBucket") := by
  unfold withBucket; rw [h]

theorem withBucket_some (h : findBucket s b = some bk) : withBucket s b kb = kb bk := by
  unfold withBucket; rw [h]

theorem guarded_some : guarded (some e) s k = (s, errR e) := rfl

theorem gated_some (hb : findBucket s b = some bk) (h : chk bk = some e) :
    (withBucket s b fun bk => guarded (chk bk) s (kg bk)) = (s, errR e) := by
  rw [withBucket_some hb, h]; rfl

theorem gated_none (hb : findBucket s b = some bk) (h : chk bk = none) :
    (withBucket s b fun bk => guarded (chk bk) s (kg bk)) = kg bk () := by
  rw [withBucket_some hb, h]; rfl

theorem withBucket_ok (h : (withBucket s b kb).2.code = "") : ∃ bk, findBucket s b = some bk ∧ (kb bk).2.code = "" := by
  unfold withBucket at h
  split at h
  · exact absurd h (errR_code_ne _)
  · exact ⟨_, ‹_›, h⟩

theorem guarded_ok (h : (guarded c s k).2.code = "") : c = none := by
  cases c with
  | some e => exact absurd h (errR_code_ne e)
  | none => rfl

theorem gated_ok (h : (withBucket s b fun bk => guarded (chk bk) s (kg bk)).2.code = "") :
    ∃ bk, findBucket s b = some bk ∧ chk bk = none ∧ (kg bk ()).2.code = "" := by
  obtain ⟨bk, hb, h⟩ := withBucket_ok h
  have hc := guarded_ok h
  rw [hc] at h
  exact ⟨bk, hb, hc, h⟩

theorem gated_of_ok (h : (withBucket s b fun bk => guarded (chk bk) s (kg bk)).2.code = "") (hb : findBucket s b = some bk) :
    (withBucket s b fun bk => guarded (chk bk) s (kg bk)) = kg bk () := by
  obtain ⟨bk', hb', hc, _⟩ := gated_ok h
  cases hb.symm.trans hb'
  exact gated_none hb hc

theorem gated_congr {chk' : Bucket → Option String} (h : ∀ bk, chk bk = chk' bk) :
    (withBucket s b fun bk => guarded (chk bk) s (kg bk)) = withBucket s b fun bk => guarded (chk' bk) s (kg bk) := by
  rw [funext h]

theorem ite_err_of_ok {p : Prop} [Decidable p] {x : State × Resp}
    (h : (if p then (s, errR e) else x).2.code = "") : (if p then (s, errR e) else x) = x := by
  split at h
  · exact absurd h (errR_code_ne e)
  · rw [if_neg ‹_›]

theorem guarded_of_ok (h : (guarded c s k).2.code = "") : guarded c s k = k () := by
  rw [guarded_ok h]; rfl

/-- every early return of `withLockedVersion` is an error, so a success is the continuation's -/
theorem withLockedVersion_ok {k vid : Bytes} {f : Ver → List Ver → List Ver → State × Resp}
    (hok : (withLockedVersion cfg s bk k vid f).2.code = "") :
    ∃ v rest pre, target bk k vid = some v ∧ (withLockedVersion cfg s bk k vid f) = f v rest pre := by
  unfold withLockedVersion at hok ⊢
  dsimp only at hok ⊢
  have h1 := ite_err_of_ok hok; rw [h1] at hok ⊢
  have h2 := ite_err_of_ok hok; rw [h2] at hok ⊢
  unfold target
  by_cases hvid : vid.isEmpty = true
  · rw [if_pos hvid] at hok ⊢
    rw [if_pos hvid]
    cases hvs : bk.versions k with
    | nil => rw [hvs] at hok; exact absurd hok (errR_code_ne _)
    | cons v rest => exact ⟨v, rest, [], rfl, rfl⟩
  · rw [if_neg hvid] at hok ⊢
    rw [if_neg hvid]
    have h3 := ite_err_of_ok hok; rw [h3] at hok ⊢
    cases hdw : (bk.versions k).dropWhile (fun x => x.vid != reqVid vid) with
    | nil => rw [hdw] at hok; exact absurd hok (errR_code_ne _)
    | cons v rest =>
      refine ⟨v, rest, _, ?_, rfl⟩
      rw [findVer, find_eq_head_dropWhile]
      exact congrArg List.head? hdw

theorem guarded_events {Q : Event → Prop} (h : c = none → ∀ ev ∈ (k ()).2.events, Q ev) :
    ∀ ev ∈ (guarded c s k).2.events, Q ev := by
  cases c with
  | some e => exact fun _ he => nomatch he
  | none => exact h rfl

theorem withBucket_events {Q : Event → Prop} (h : ∀ bk, ∀ ev ∈ (kb bk).2.events, Q ev) :
    ∀ ev ∈ (withBucket s b kb).2.events, Q ev := by
  unfold withBucket; split
  · exact fun _ he => nomatch he
  · exact h _

theorem withBucket_fst (h : ∀ bk, (kb bk).1 = s) : (withBucket s b kb).1 = s := by
  unfold withBucket; split
  · rfl
  · exact h _

theorem guarded_fst (h : c = none → (k ()).1 = s) : (guarded c s k).1 = s := by
  cases c with
  | some e => rfl
  | none => exact h rfl

theorem ite_fst {p : Prop} [Decidable p] {x y : State × Resp} (hx : x.1 = s) (hy : y.1 = s) :
    (if p then x else y).1 = s := by
  split
  · exact hx
  · exact hy

theorem withLockedVersion_fst {key vid : Bytes} {f : Ver → List Ver → List Ver → State × Resp}
    (hf : ∀ v r p, (f v r p).1 = s) : (withLockedVersion cfg s bk key vid f).1 = s := by
  unfold withLockedVersion
  refine ite_fst rfl (ite_fst rfl (ite_fst ?_ (ite_fst rfl ?_))) <;> split
  all_goals first | rfl | exact hf _ _ _

/-- answered with an error, state untouched -/
def Refused (s : State) (x : State × Resp) : Prop := x.1 = s ∧ x.2.code ≠ ""

theorem Refused.err (s : State) (e : String) : Refused s (s, errR e) := ⟨rfl, errR_code_ne e⟩

theorem Refused.ite {p : Prop} [Decidable p] {x y : State × Resp} (hx : Refused s x) (hy : Refused s y) :
    Refused s (if p then x else y) := by
  split
  · exact hx
  · exact hy

theorem Refused.withBucket (h : ∀ bk, findBucket s b = some bk → Refused s (kb bk)) :
    Refused s (withBucket s b kb) := by
  unfold Gw.withBucket; split
  · exact Refused.err s _
  · exact h _ ‹_›

theorem Refused.guarded_some (h : c = some e) : Refused s (guarded c s k) := h ▸ Refused.err s e

theorem Refused.second_guard {c₁ c₂ : Bucket → Option String} (hb : findBucket s b = some bk) (h : c₂ bk = some e) :
    Refused s (Gw.withBucket s b fun bk => Gw.guarded (c₁ bk) s fun _ => Gw.guarded (c₂ bk) s (kg bk)) := by
  rw [withBucket_some hb]
  cases c₁ bk with
  | some e' => exact Refused.err s e'
  | none => exact Refused.guarded_some (c := c₂ bk) h

theorem Refused.gate (h : ∀ bk, chk bk = some e) : Refused s (Gw.withBucket s b fun bk => Gw.guarded (chk bk) s (kg bk)) :=
  Refused.withBucket fun bk _ => Refused.guarded_some (h bk)

theorem policyAllows_iff (p : Policy) (who act res : Bytes) :
    policyAllows p who act res = true ↔
      (∃ st ∈ p.stmts, st.allow = true ∧ stmtMatch st who act res = true) ∧
      ¬ ∃ st ∈ p.stmts, st.allow = false ∧ stmtMatch st who act res = true := by
  simp [policyAllows]

theorem verifyAccess_readonly_write (h : cfg.readonly = true) {perm : Perm} (hp : perm.isWrite = true)
    {act obj : Bytes} : verifyAccess cfg bk w perm act obj = some "AccessDenied" := by
  simp [verifyAccess, h, hp]

theorem batch_readonly (h : cfg.readonly = true) {keys : List (Bytes × Bytes)} {act : Bytes} :
    ((if keys.isEmpty then [[]] else keys.map (·.1)).findSome? fun k => verifyAccess cfg bk w .write act k)
      = some "AccessDenied" := by
  cases keys <;> simp [verifyAccess_readonly_write h (perm := .write) rfl]

/-- the classification `Props.C15.Op.isRead` (a Lemmas file cannot name it; the two are equal by `rfl`) -/
def Op.reads : Op → Bool
  | .headBucket .. | .listBuckets .. | .getBucketPolicy .. | .getBucketAcl .. | .getBucketTagging .. | .getOwnership ..
  | .getVersioning .. | .getObject .. | .headObject .. | .getObjectTagging .. | .listVersions .. | .getLockConfig ..
  | .getRetention .. | .getLegalHold .. | .listParts .. | .listUploads .. => true
  | _ => false

theorem handle_read_fst (cfg : Cfg) (s : State) (w : Who) (now : Int) (op : Op) (hr : op.reads = true) :
    (handle cfg s w now op).1 = s := by
  -- special: ListBuckets has no bucket, GetBucketVersioning and the object reads are if-chains,
  -- the per-version lock reads go through `withLockedVersion`; the rest return `s` on every branch
  cases op <;> cases hr
  case listBuckets => exact ite_fst rfl rfl
  case getVersioning => exact withBucket_fst fun bk => guarded_fst fun _ => ite_fst rfl (ite_fst rfl rfl)
  case getObject b k vid | headObject b k vid =>
    refine withBucket_fst fun bk => guarded_fst fun _ => ite_fst ?_ (ite_fst rfl (ite_fst rfl ?_))
    · cases currentVer (bk.versions k) <;> rfl
    · cases findVer (bk.versions k) vid with
      | none => rfl
      | some v => exact ite_fst rfl rfl
  case getRetention b k vid | getLegalHold b k vid =>
    exact withBucket_fst fun bk => guarded_fst fun _ => withLockedVersion_fst fun v _ _ => by split <;> rfl
  all_goals
    refine withBucket_fst fun bk => guarded_fst fun _ => ?_
    repeat' split
    all_goals rfl

theorem handle_readonly_refused (h : cfg.readonly = true) (s : State) (w : Who) (now : Int) (op : Op)
    (hm : op.reads = false) : Refused s (handle cfg s w now op) := by
  -- special: CreateBucket has no bucket; the ACL operations test ownership before the gate; the
  -- batch delete checks every key; the copies carry a read-only test of their own
  cases op <;> cases hm
  case createBucket =>
    refine Refused.ite (Refused.err s _) ?_
    rw [if_pos h]
    exact Refused.err s _
  case putBucketAcl | putBucketAclGrants =>
    exact Refused.withBucket fun bk _ => Refused.ite (Refused.err s _)
      (Refused.guarded_some (verifyAccess_readonly_write h rfl))
  case deleteObjects b keys bypass newVids =>
    exact Refused.gate (e := "AccessDenied") fun bk => batch_readonly h
  case copyObject | uploadPartCopy => exact Refused.gate (e := "AccessDenied") fun bk => if_pos h
  all_goals
    refine Refused.gate (e := "AccessDenied") fun bk => ?_
    exact verifyAccess_readonly_write h rfl

end Vgw.Model.Gw
