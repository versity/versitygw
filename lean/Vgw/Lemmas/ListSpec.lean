/-
  Spec-level lemmas about Spec.List, for any delimiter: roll-up names are monotone in the key, entry
  names strictly ascending, listing again from a returned name gives the rest; the Bool input
  classes `markerClear` and `serverIssued` as propositions.
-/
import Vgw.Lemmas.Cut
import Vgw.Spec.List
namespace Vgw.Spec.List
open Vgw

/-- the part of `s` (= key − prefix) that names its entry -/
def rn (D s : Bytes) : Bytes :=
  match cut D s with
  | some x => x ++ D
  | none => s

theorem rn_some {D s x : Bytes} (h : cut D s = some x) : rn D s = x ++ D := by rw [rn, h]

theorem rn_none {D s : Bytes} (h : cut D s = none) : rn D s = s := by rw [rn, h]

theorem rn_prefix (D s : Bytes) : rn D s <+: s := by
  cases h : cut D s with
  | none => rw [rn_none h]; exact List.prefix_refl _
  | some x => rw [rn_some h]; exact (cut_some_spec D s x h).1

theorem rn_occ (D s y : Bytes) (h : y ++ D <+: rn D s) : y ++ D = rn D s := by
  cases hc : cut D s with
  | none => rw [rn_none hc] at h; exact absurd h (cut_none_spec D s hc y)
  | some x =>
    rw [rn_some hc] at h ⊢
    have hx := cut_some_spec D s x hc
    have := hx.2 y (h.trans hx.1)
    exact h.eq_of_length (by have := h.length_le; simp at this ⊢; omega)

theorem cut_some_of_rn_eq {D s1 s2 x : Bytes} (h : rn D s1 = rn D s2) (c1 : cut D s1 = some x) :
    cut D s2 = some x := by
  rw [rn_some c1] at h
  cases c2 : cut D s2 with
  | none => rw [rn_none c2] at h; exact absurd ⟨[], by rw [List.append_nil, h]⟩ (cut_none_spec D s2 c2 x)
  | some x2 => rw [rn_some c2] at h; rw [List.append_cancel_right h]

theorem rn_mono (D s1 s2 : Bytes) (h : ble s1 s2 = true) : ble (rn D s1) (rn D s2) = true := by
  cases hb : ble (rn D s1) (rn D s2) with
  | true => rfl
  | false =>
    exfalso
    have hlt := (not_ble _ _).1 hb
    obtain ⟨t1, ht1⟩ := rn_prefix D s1
    obtain ⟨t2, ht2⟩ := rn_prefix D s2
    by_cases hp : rn D s2 <+: rn D s1
    · -- a name that begins another name is that name
      have heq : rn D s2 = rn D s1 := by
        cases hc : cut D s2 with
        | some x2 =>
          rw [rn_some hc] at hp ⊢
          exact rn_occ D s1 x2 hp
        | none =>
          rw [rn_none hc] at hp
          have := ble_antisymm s1 s2 h (ble_of_prefix _ _ (hp.trans (rn_prefix D s1)))
          rw [this]
      rw [heq, blt_irrefl] at hlt; cases hlt
    · -- they differ inside both, and so do the strings they begin
      have := blt_append_of_not_prefix _ _ hlt hp t2 t1
      rw [ht2, ht1] at this
      rw [ble, this] at h; cases h

theorem entry_nil (P k : Bytes) : entry P [] k = .obj k := by simp [entry]

theorem entry_append_some (P D s x : Bytes) (hD : D ≠ []) (h : cut D s = some x) :
    entry P D (P ++ s) = .cp (P ++ x ++ D) := by
  simp [entry, hD, h]

theorem entry_append_none (P D s : Bytes) (h : cut D s = none) : entry P D (P ++ s) = .obj (P ++ s) := by
  by_cases hD : D = []
  · subst hD; simp [entry]
  · simp [entry, hD, h]

theorem name_entry_append (P D s : Bytes) (hD : D ≠ []) : (entry P D (P ++ s)).name = P ++ rn D s := by
  cases h : cut D s with
  | none => rw [entry_append_none P D s h, rn_none h]; rfl
  | some x => rw [entry_append_some P D s x hD h, rn_some h, List.append_assoc]; rfl

theorem name_entry_prefix (P D k : Bytes) (hP : P <+: k) : (entry P D k).name <+: k := by
  obtain ⟨s, rfl⟩ := hP
  by_cases hD : D = []
  · subst hD; simp [entry_nil, Entry.name]
  · rw [name_entry_append P D s hD]
    exact (List.prefix_append_right_inj P).2 (rn_prefix D s)

theorem name_entry_mono (P D k1 k2 : Bytes) (h1 : P <+: k1) (h2 : P <+: k2) (h : ble k1 k2 = true) :
    ble (entry P D k1).name (entry P D k2).name = true := by
  obtain ⟨s1, rfl⟩ := h1
  obtain ⟨s2, rfl⟩ := h2
  by_cases hD : D = []
  · subst hD; simpa [entry_nil, Entry.name] using h
  · rw [name_entry_append P D s1 hD, name_entry_append P D s2 hD, ble_append_left]
    rw [ble_append_left] at h
    exact rn_mono D s1 s2 h

theorem lt_of_name_lt (P D k1 k2 : Bytes) (h1 : P <+: k1) (h2 : P <+: k2)
    (h : blt (entry P D k1).name (entry P D k2).name = true) : blt k1 k2 = true := by
  rcases blt_trichotomy k1 k2 with h' | h' | h'
  · exact h'
  · subst h'; rw [blt_irrefl] at h; cases h
  · have := name_entry_mono P D k2 k1 h2 h1 (ble_of_blt _ _ h')
    rw [ble, h] at this; cases this

theorem entry_eq_of_name_eq (P D k1 k2 : Bytes) (h1 : P <+: k1) (h2 : P <+: k2)
    (h : (entry P D k1).name = (entry P D k2).name) : entry P D k1 = entry P D k2 := by
  obtain ⟨s1, rfl⟩ := h1
  obtain ⟨s2, rfl⟩ := h2
  by_cases hD : D = []
  · subst hD; simpa [entry_nil, Entry.name] using h
  · rw [name_entry_append P D s1 hD, name_entry_append P D s2 hD, List.append_cancel_left_eq] at h
    cases c1 : cut D s1 with
    | some x =>
      rw [entry_append_some P D s1 x hD c1, entry_append_some P D s2 x hD (cut_some_of_rn_eq h c1)]
    | none =>
      cases c2 : cut D s2 with
      | some x => rw [cut_some_of_rn_eq h.symm c2] at c1; cases c1
      | none =>
        rw [rn_none c1, rn_none c2] at h
        rw [h]

theorem entry_obj_eq (P D k k' : Bytes) (hP : P <+: k) (h : entry P D k = .obj k') : k' = k := by
  obtain ⟨s, rfl⟩ := hP
  by_cases hD : D = []
  · subst hD; simp [entry_nil] at h; exact h.symm
  · cases c : cut D s with
    | none => rw [entry_append_none P D s c] at h; simp at h; exact h.symm
    | some x => rw [entry_append_some P D s x hD c] at h; simp at h

theorem isCPName_of_cut (P D s x : Bytes) (hD : D ≠ []) (h : cut D s = some x) :
    isCPName P D (P ++ x ++ D) = true := by
  obtain ⟨⟨t, ht⟩, _⟩ := cut_some_spec D s x h
  have hs : cut D (x ++ D) = some x := by simpa using cut_stable D x t [] (by rw [ht]; exact h)
  unfold isCPName
  have hp : P.isPrefixOf (P ++ x ++ D) = true := (isPrefixOf_iff _ _).2 ⟨x ++ D, by simp⟩
  have hdrop : (P ++ x ++ D).drop P.length = x ++ D := by simp [List.append_assoc]
  simp [hD, hs]

theorem isCPName_spec (P D M : Bytes) (h : isCPName P D M = true) :
    D ≠ [] ∧ ∃ x, M = P ++ x ++ D ∧ cut D (x ++ D) = some x := by
  unfold isCPName at h
  simp only [Bool.and_eq_true, decide_eq_true_eq] at h
  obtain ⟨⟨hD, hp⟩, hm⟩ := h
  refine ⟨by simpa using hD, ?_⟩
  obtain ⟨s, rfl⟩ := (isPrefixOf_iff _ _).1 hp
  simp only [List.drop_left'] at hm
  cases hc : cut D s with
  | none => simp [hc] at hm
  | some x =>
    simp only [hc, beq_iff_eq] at hm
    have hs : s = x ++ D := by
      have := List.append_cancel_left (by simpa [List.append_assoc] using hm : P ++ s = P ++ (x ++ D))
      exact this
    refine ⟨x, hm, ?_⟩
    rw [← hs]; exact hc

theorem after_iff (P D M k : Bytes) : after P D M k = true ↔
    M = [] ∨ (blt M k = true ∧ ¬ (isCPName P D M = true ∧ M <+: k)) := by
  unfold after
  rw [← isPrefixOf_iff]
  by_cases hM : M = []
  · simp [hM]
  · have : (M == []) = false := by simpa using hM
    rw [this]
    cases isCPName P D M <;> cases M.isPrefixOf k <;> simp [hM]

theorem after_upward (P D M k0 k : Bytes) (h0 : after P D M k0 = true) (h : blt k0 k = true) :
    after P D M k = true := by
  rw [after_iff] at h0 ⊢
  rcases h0 with hM | ⟨h1, h2⟩
  · exact Or.inl hM
  · right
    refine ⟨blt_trans _ _ _ h1 h, ?_⟩
    rintro ⟨hcp, ⟨r, hr⟩⟩
    apply h2
    exact ⟨hcp, prefix_of_between M k0 r (ble_of_blt _ _ h1) (by rw [hr]; exact h)⟩

theorem after_append_none (P D M s : Bytes) (hcut : D = [] ∨ cut D s = none) :
    after P D M (P ++ s) = true ↔ M = [] ∨ blt M (P ++ s) = true := by
  rw [after_iff]
  refine or_congr_right ⟨fun h => h.1, fun h => ⟨h, ?_⟩⟩
  rintro ⟨hcp, hm⟩
  obtain ⟨hD, x, rfl, _⟩ := isCPName_spec P D M hcp
  rcases hcut with h | h
  · exact hD h
  · rw [List.append_assoc, List.prefix_append_right_inj] at hm
    exact cut_none_spec D s h x hm

theorem name_entry_of_cpName (P D M k : Bytes) (hcp : isCPName P D M = true) (hm : M <+: k) :
    (entry P D k).name = M := by
  obtain ⟨hD, x, rfl, hc⟩ := isCPName_spec P D M hcp
  obtain ⟨t, rfl⟩ := hm
  have : P ++ x ++ D ++ t = P ++ (x ++ D ++ t) := by simp [List.append_assoc]
  rw [this, entry_append_some P D _ x hD (cut_stable D x [] t (by simpa using hc))]; rfl

/-- the marker `M` is clear of the common prefix `P ++ x ++ D`: if it begins with `P ++ x` it is neither
between `P ++ x` and the common prefix nor strictly inside the common prefix's key range (what
`Spec.List.markerClear` asks of every key that rolls up) -/
def ClearOfCP (P D M x : Bytes) : Prop :=
  (P ++ x) <+: M → ble (P ++ x ++ D) M = true ∧ ((P ++ x ++ D) <+: M → P ++ x ++ D = M)

theorem after_append_some (P D M s x : Bytes) (hD : D ≠ []) (hcut : cut D s = some x)
    (hmc : M ≠ [] → ClearOfCP P D M x) :
    after P D M (P ++ s) = true ↔ M = [] ∨ (blt M (P ++ x ++ D) = true ∧ ¬ (P ++ x) <+: M) := by
  obtain ⟨⟨t, ht⟩, _⟩ := cut_some_spec D s x hcut
  have hk : P ++ x ++ D ++ t = P ++ s := by rw [← ht]; simp [List.append_assoc]
  have hcpn := isCPName_of_cut P D s x hD hcut
  rw [after_iff]
  by_cases hM : M = []
  · simp [hM]
  refine or_congr_right ⟨?_, ?_⟩
  · rintro ⟨e1, e2⟩
    -- a marker at or beyond the common prefix would leave the key behind
    have hbeyond : blt (P ++ x ++ D) M = true → ¬ (P ++ x ++ D) <+: M → False := by
      intro hlt hnp
      have := blt_append_of_blt_not_prefix _ _ hlt hnp t
      rw [hk, blt_asymm _ _ e1] at this; cases this
    have hna : ¬ (P ++ x) <+: M := by
      intro hpa
      obtain ⟨m1, m2⟩ := hmc hM hpa
      rcases (ble_iff _ _).1 m1 with heq | hlt
      · exact e2 ⟨heq ▸ hcpn, heq ▸ ⟨t, hk⟩⟩
      · exact hbeyond hlt (fun hp => blt_ne _ _ hlt (m2 hp))
    refine ⟨?_, hna⟩
    rcases blt_trichotomy M (P ++ x ++ D) with e | e | e
    · exact e
    · exact absurd ⟨e ▸ hcpn, e ▸ ⟨t, hk⟩⟩ e2
    · exact (hbeyond e (fun hp => hna ((List.prefix_append _ _).trans hp))).elim
  · rintro ⟨e1, _⟩
    refine ⟨blt_of_blt_of_ble _ _ _ e1 (ble_of_prefix _ _ ⟨t, hk⟩), ?_⟩
    rintro ⟨hcp, hm⟩
    -- a common-prefix name that begins the key is the key's own
    have := name_entry_of_cpName P D M _ hcp hm
    rw [entry_append_some P D s x hD hcut] at this
    rw [← this, show (Entry.cp (P ++ x ++ D)).name = P ++ x ++ D from rfl, blt_irrefl] at e1
    cases e1

theorem entry_obj_or_cpName (P D k : Bytes) (hP : P <+: k) :
    entry P D k = .obj k ∨ isCPName P D (entry P D k).name = true := by
  obtain ⟨s, rfl⟩ := hP
  by_cases hD : D = []
  · exact Or.inl (hD ▸ entry_nil _ _)
  · cases hc : cut D s with
    | none => exact Or.inl (entry_append_none P D s hc)
    | some x => right; rw [entry_append_some P D s x hD hc]; exact isCPName_of_cut P D s x hD hc

theorem after_name_iff (P D k0 k : Bytes) (h0 : P <+: k0) (hk : P <+: k) (hne : k0 ≠ []) :
    after P D (entry P D k0).name k = true ↔ blt (entry P D k0).name (entry P D k).name = true := by
  have hpre0 := name_entry_prefix P D k0 h0
  have hkind := entry_obj_or_cpName P D k0 h0
  have hn0 : (entry P D k0).name ≠ [] := by
    rcases hkind with h | h
    · rw [h]; exact hne
    · obtain ⟨hD, x, hx, _⟩ := isCPName_spec _ _ _ h
      rw [hx]; simp [hD]
  rw [after_iff]
  constructor
  · intro ha
    obtain ⟨hlt, hnp⟩ := ha.resolve_left hn0
    -- `k` is above `k0`, so its name is at least that of `k0`; equal names would be equal entries
    have hk0 : blt k0 k = true := by
      rcases hkind with h | h
      · rw [h] at hlt; exact hlt
      · obtain ⟨t, ht⟩ := hpre0
        rw [← ht]; exact blt_append_of_blt_not_prefix _ k hlt (fun hp => hnp ⟨h, hp⟩) t
    rcases (ble_iff _ _).1 (name_entry_mono P D k0 k h0 hk (ble_of_blt _ _ hk0)) with e | e
    · exfalso
      rcases hkind with h | h
      · have he := entry_eq_of_name_eq P D k0 k h0 hk e
        rw [h] at he
        rw [entry_obj_eq P D k k0 hk he.symm, blt_irrefl] at hk0; cases hk0
      · exact hnp ⟨h, e ▸ name_entry_prefix P D k hk⟩
    · exact e
  · intro hlt
    refine Or.inr ⟨blt_of_ble_of_blt _ _ _ (ble_of_prefix _ _ hpre0) (lt_of_name_lt P D k0 k h0 hk hlt), ?_⟩
    rintro ⟨hcp, hm⟩
    rw [name_entry_of_cpName P D _ k hcp hm, blt_irrefl] at hlt; cases hlt

theorem mem_dedupAdjacent {α : Type} [DecidableEq α] : ∀ (l : List α) (x : α), x ∈ dedupAdjacent l ↔ x ∈ l
  | [], _ => by simp [dedupAdjacent]
  | [_], _ => by simp [dedupAdjacent]
  | e :: f :: r, x => by
    unfold dedupAdjacent
    split
    · rename_i h; subst h
      rw [mem_dedupAdjacent (e :: r) x]; simp
    · simp only [List.mem_cons]
      rw [mem_dedupAdjacent (f :: r) x]; simp

/-- weakly ascending names + "equal names ⇒ equal entries" ⇒ strictly ascending after dedup -/
theorem dedupAdjacent_sorted : ∀ (l : List Entry),
    l.Pairwise (fun a b => ble a.name b.name = true) →
    (∀ a ∈ l, ∀ b ∈ l, a.name = b.name → a = b) →
    (dedupAdjacent l).Pairwise (fun a b => blt a.name b.name = true)
  | [], _, _ => by simp [dedupAdjacent]
  | [_], _, _ => by simp [dedupAdjacent]
  | e :: f :: r, hs, hinj => by
    have hs' := List.pairwise_cons.1 hs
    have ih := dedupAdjacent_sorted (f :: r) hs'.2 (fun a ha b hb => hinj a (by simp [ha]) b (by simp [hb]))
    unfold dedupAdjacent
    split
    · exact ih
    · rename_i hne
      refine List.pairwise_cons.2 ⟨?_, ih⟩
      intro y hy
      rw [mem_dedupAdjacent] at hy
      have hef : blt e.name f.name = true := by
        rcases (ble_iff _ _).1 (hs'.1 f (by simp)) with h | h
        · exact absurd (hinj e (by simp) f (by simp) h) hne
        · exact h
      rcases List.mem_cons.1 hy with rfl | hy
      · exact hef
      · have hs'' := List.pairwise_cons.1 hs'.2
        exact blt_of_blt_of_ble _ _ _ hef (hs''.1 y hy)

theorem mem_selected (K : List Bytes) (P D M k : Bytes) :
    k ∈ selected K P D M ↔ k ∈ K ∧ P <+: k ∧ after P D M k = true := by
  unfold selected
  simp [mem_sortDedup, isPrefixOf_iff]

theorem mem_entries (K : List Bytes) (P D M : Bytes) (e : Entry) :
    e ∈ entries K P D M ↔ ∃ k, k ∈ K ∧ P <+: k ∧ after P D M k = true ∧ entry P D k = e := by
  unfold entries
  rw [mem_dedupAdjacent]
  simp only [List.mem_map, mem_selected]
  constructor
  · rintro ⟨k, ⟨h1, h2, h3⟩, h4⟩; exact ⟨k, h1, h2, h3, h4⟩
  · rintro ⟨k, h1, h2, h3, h4⟩; exact ⟨k, ⟨h1, h2, h3⟩, h4⟩

theorem pairwise_name_mono (P D : Bytes) : ∀ l : List Bytes, l.Pairwise (fun a b => blt a b = true) →
    (∀ k ∈ l, P <+: k) → l.Pairwise (fun a b => ble (entry P D a).name (entry P D b).name = true)
  | [], _, _ => List.Pairwise.nil
  | a :: l, hs, hall => by
    have hs' := List.pairwise_cons.1 hs
    refine List.pairwise_cons.2 ⟨?_, pairwise_name_mono P D l hs'.2 (fun k hk => hall k (by simp [hk]))⟩
    intro b hb
    exact name_entry_mono P D a b (hall a (by simp)) (hall b (by simp [hb])) (ble_of_blt _ _ (hs'.1 b hb))

theorem entries_sorted (K : List Bytes) (P D M : Bytes) :
    (entries K P D M).Pairwise (fun a b => blt a.name b.name = true) := by
  unfold entries
  apply dedupAdjacent_sorted
  · rw [List.pairwise_map]
    exact pairwise_name_mono P D _ ((sortDedup_sorted K).filter _)
      (fun k hk => ((mem_selected K P D M k).1 hk).2.1)
  · intro a ha b hb hab
    simp only [List.mem_map, mem_selected] at ha hb
    obtain ⟨ka, ⟨_, hpa, _⟩, rfl⟩ := ha
    obtain ⟨kb, ⟨_, hpb, _⟩, rfl⟩ := hb
    exact entry_eq_of_name_eq P D ka kb hpa hpb hab

theorem nodup_of_names_ascending {l : List Entry} (h : l.Pairwise (fun a b => blt a.name b.name = true)) :
    l.Nodup :=
  h.imp fun {a b} hab he => by rw [he, blt_irrefl] at hab; cases hab

theorem sorted_ext (l1 l2 : List Entry)
    (h1 : l1.Pairwise (fun a b => blt a.name b.name = true))
    (h2 : l2.Pairwise (fun a b => blt a.name b.name = true))
    (h : ∀ x, x ∈ l1 ↔ x ∈ l2) : l1 = l2 :=
  List.Perm.eq_of_pairwise (fun a b _ _ hab hba => by rw [blt_asymm _ _ hab] at hba; cases hba) h1 h2
    ((List.perm_ext_iff_of_nodup (nodup_of_names_ascending h1) (nodup_of_names_ascending h2)).2 h)

theorem entries_restart (K : List Bytes) (P D M : Bytes) (hK : [] ∉ K) (e : Entry)
    (he : e ∈ entries K P D M) :
    entries K P D e.name = (entries K P D M).filter (fun f => blt e.name f.name) := by
  obtain ⟨k0, hk0K, hk0P, hk0A, rfl⟩ := (mem_entries K P D M e).1 he
  have hk0ne : k0 ≠ [] := fun h => hK (h ▸ hk0K)
  apply sorted_ext
  · exact entries_sorted K P D _
  · exact (entries_sorted K P D M).filter _
  · intro f
    rw [List.mem_filter, mem_entries, mem_entries]
    constructor
    · rintro ⟨k, hkK, hkP, hkA, rfl⟩
      have hlt := (after_name_iff P D k0 k hk0P hkP hk0ne).1 hkA
      refine ⟨⟨k, hkK, hkP, ?_, rfl⟩, hlt⟩
      exact after_upward P D M k0 k hk0A (lt_of_name_lt P D k0 k hk0P hkP hlt)
    · rintro ⟨⟨k, hkK, hkP, _, rfl⟩, hlt⟩
      exact ⟨k, hkK, hkP, (after_name_iff P D k0 k hk0P hkP hk0ne).2 hlt, rfl⟩

theorem exists_take_eq_concat {α : Type} (l : List α) (n : Nat) (hn : 0 < n) (hl : n ≤ l.length) :
    ∃ init x, l.take n = init ++ [x] := by
  have hne : l.take n ≠ [] := by
    intro h
    have := congrArg List.length h
    rw [List.length_take, List.length_nil] at this
    omega
  exact ⟨_, _, (List.dropLast_concat_getLast hne).symm⟩

theorem lastName_concat (init : List Entry) (x : Entry) : lastName (init ++ [x]) = x.name := by
  simp [lastName]

theorem filter_gt_of_sorted (init : List Entry) (x : Entry) (rest : List Entry)
    (hs : (init ++ x :: rest).Pairwise (fun a b => blt a.name b.name = true)) :
    (init ++ x :: rest).filter (fun f => blt x.name f.name) = rest := by
  rw [List.pairwise_append, List.pairwise_cons] at hs
  obtain ⟨_, ⟨hx, _⟩, hcross⟩ := hs
  have e1 : init.filter (fun f => blt x.name f.name) = [] :=
    List.filter_eq_nil_iff.2 fun a ha => by rw [blt_asymm _ _ (hcross a ha x (by simp))]; simp
  have e2 : rest.filter (fun f => blt x.name f.name) = rest :=
    List.filter_eq_self.2 fun a ha => hx a ha
  rw [List.filter_append, List.filter_cons, blt_irrefl, e1, e2]
  rfl

theorem filter_gt_last_take (l : List Entry) (hs : l.Pairwise (fun a b => blt a.name b.name = true))
    (n : Nat) (hn : 0 < n) (hl : n ≤ l.length) :
    l.filter (fun f => blt (lastName (l.take n)) f.name) = l.drop n := by
  obtain ⟨init, x, h⟩ := exists_take_eq_concat l n hn hl
  have hsplit : init ++ x :: l.drop n = l := by
    rw [← List.singleton_append, ← List.append_assoc, ← h, List.take_append_drop]
  rw [h, lastName_concat]
  rw [← hsplit] at hs
  have := filter_gt_of_sorted init x (l.drop n) hs
  rwa [hsplit] at this

theorem list_zero (K : List Bytes) (P D M : Bytes) : list K P D M 0 = ⟨[], false, []⟩ := rfl

theorem list_of_pos (K : List Bytes) (P D M : Bytes) (N : Nat) (hN : 0 < N) : list K P D M N =
    ⟨(entries K P D M).take N, decide (N < (entries K P D M).length),
      if N < (entries K P D M).length then lastName ((entries K P D M).take N) else []⟩ := by
  unfold list
  rw [if_neg (Nat.ne_of_gt hN)]
  dsimp only
  split
  · rename_i h; simp [h]
  · rename_i h; simp [h, List.take_of_length_le (Nat.le_of_not_lt h)]

theorem result_zero (g : Model.Walk.GetObj) (K : List Bytes) (P D M : Bytes) :
    result g K P D M 0 = Model.Walk.Result.empty := rfl

theorem lastName_take_mem (l : List Entry) (n : Nat) (hn : 0 < n) (hl : n ≤ l.length) :
    ∃ e ∈ l, lastName (l.take n) = e.name := by
  obtain ⟨init, x, h⟩ := exists_take_eq_concat l n hn hl
  exact ⟨x, List.mem_of_mem_take (by rw [h]; simp), by rw [h, lastName_concat]⟩

theorem mem_cpsOf (es : List Entry) (n : Bytes) : n ∈ cpsOf es ↔ Entry.cp n ∈ es := by
  unfold cpsOf
  rw [List.mem_filterMap]
  constructor
  · rintro ⟨e, he, hen⟩
    cases e with
    | obj k => cases hen
    | cp m => cases hen; exact he
  · exact fun h => ⟨_, h, rfl⟩

theorem markerClear_iff (K : List Bytes) (P D M : Bytes) : markerClear K P D M = true ↔
    M = [] ∨ D = [] ∨ ∀ k ∈ K, P <+: k → ∀ x, cut D (k.drop P.length) = some x → ClearOfCP P D M x := by
  unfold markerClear ClearOfCP
  simp only [Bool.or_eq_true, beq_iff_eq, List.all_eq_true, or_assoc]
  refine or_congr_right (or_congr_right (forall_congr' fun k => forall_congr' fun _ => ?_))
  cases hc : cut D (k.drop P.length) with
  | none => simp
  | some x => simp [isPrefixOf_false_or]

theorem serverIssued_iff (K : List Bytes) (P D M : Bytes) : serverIssued K P D M = true ↔
    M = [] ∨ ∃ k ∈ K, P <+: k ∧ (entry P D k).name = M := by
  simp [serverIssued]

end Vgw.Spec.List
