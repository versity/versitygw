/-
  strings.Cut: `cut D s = some x` iff `x ++ D` is the shortest prefix of `s` ending in `D`.
-/
import Vgw.Lemmas.Order
namespace Vgw

theorem isPrefixOf_iff (a b : Bytes) : a.isPrefixOf b = true ↔ a <+: b := List.isPrefixOf_iff_prefix

theorem isPrefixOf_false_iff (a b : Bytes) : a.isPrefixOf b = false ↔ ¬ a <+: b := by
  rw [← isPrefixOf_iff]; cases a.isPrefixOf b <;> simp

theorem isPrefixOf_false_or (a b : Bytes) (Q : Prop) : (a.isPrefixOf b = false ∨ Q) ↔ (a <+: b → Q) := by
  rw [isPrefixOf_false_iff]
  exact Decidable.imp_iff_not_or.symm

theorem hasPrefix_iff (s p : Bytes) : hasPrefix s p = true ↔ p <+: s := isPrefixOf_iff p s

theorem trimPrefix_append (p s : Bytes) : trimPrefix (p ++ s) p = s := by
  unfold trimPrefix
  rw [(hasPrefix_iff _ _).2 (List.prefix_append p s)]
  simp

theorem occ_cons (D : Bytes) (c : UInt8) (s y : Bytes) :
    y ++ D <+: c :: s ↔ (y = [] ∧ D <+: c :: s) ∨ ∃ y', y = c :: y' ∧ y' ++ D <+: s := by
  cases y with
  | nil => simp
  | cons c' y' =>
    rw [List.cons_append, List.cons_prefix_cons]
    constructor
    · rintro ⟨rfl, h⟩; exact Or.inr ⟨y', rfl, h⟩
    · rintro (⟨h, _⟩ | ⟨y'', h, h'⟩)
      · cases h
      · cases h; exact ⟨rfl, h'⟩

theorem cut_nil (D : Bytes) : cut D [] = if D = [] then some [] else none := rfl

theorem cut_cons (D : Bytes) (c : UInt8) (s : Bytes) :
    cut D (c :: s) = if D.isPrefixOf (c :: s) then some [] else (cut D s).map (c :: ·) := rfl

theorem cut_some_spec (D : Bytes) : ∀ (s x : Bytes), cut D s = some x →
    x ++ D <+: s ∧ ∀ y : Bytes, y ++ D <+: s → x.length ≤ y.length
  | [], x, h => by
    rw [cut_nil] at h
    by_cases hD : D = []
    · rw [if_pos hD] at h; cases h
      exact ⟨by rw [hD]; exact List.prefix_refl _, fun _ _ => Nat.zero_le _⟩
    · rw [if_neg hD] at h; cases h
  | c :: s, x, h => by
    rw [cut_cons] at h
    by_cases hp : D.isPrefixOf (c :: s) = true
    · rw [if_pos hp] at h; cases h
      exact ⟨(isPrefixOf_iff _ _).1 hp, fun _ _ => Nat.zero_le _⟩
    · rw [if_neg hp, Option.map_eq_some_iff] at h
      obtain ⟨x', hc, rfl⟩ := h
      have ih := cut_some_spec D s x' hc
      refine ⟨List.cons_prefix_cons.2 ⟨rfl, ih.1⟩, fun y hy => ?_⟩
      rcases (occ_cons D c s y).1 hy with ⟨_, h0⟩ | ⟨y', rfl, hy'⟩
      · exact absurd ((isPrefixOf_iff _ _).2 h0) hp
      · exact Nat.succ_le_succ (ih.2 y' hy')

theorem cut_none_spec (D : Bytes) : ∀ (s : Bytes), cut D s = none → ∀ y : Bytes, ¬ y ++ D <+: s
  | [], h, y, hy => by
    rw [cut_nil] at h
    by_cases hD : D = []
    · rw [if_pos hD] at h; cases h
    · exact hD (List.append_eq_nil_iff.1 (List.prefix_nil.1 hy)).2
  | c :: s, h, y, hy => by
    rw [cut_cons] at h
    by_cases hp : D.isPrefixOf (c :: s) = true
    · rw [if_pos hp] at h; cases h
    · rw [if_neg hp, Option.map_eq_none_iff] at h
      rcases (occ_cons D c s y).1 hy with ⟨_, h0⟩ | ⟨y', _, hy'⟩
      · exact hp ((isPrefixOf_iff _ _).2 h0)
      · exact cut_none_spec D s h y' hy'

theorem cut_of_occ (D s y : Bytes) (h : y ++ D <+: s) : ∃ x, cut D s = some x ∧ x.length ≤ y.length := by
  cases hc : cut D s with
  | none => exact absurd h (cut_none_spec D s hc y)
  | some x => exact ⟨x, rfl, (cut_some_spec D s x hc).2 y h⟩

theorem cut_eq_some_iff (D s x : Bytes) :
    cut D s = some x ↔ (x ++ D <+: s ∧ ∀ y : Bytes, y ++ D <+: s → x.length ≤ y.length) := by
  constructor
  · exact cut_some_spec D s x
  · rintro ⟨hx, hmin⟩
    obtain ⟨x', hx', hle⟩ := cut_of_occ D s x hx
    have hs := cut_some_spec D s x' hx'
    have hlen : x'.length = x.length := by
      have := hmin x' hs.1; omega
    have : x' ++ D = x ++ D := by
      have hp := List.prefix_of_prefix_length_le hs.1 hx (by simp [hlen])
      exact hp.eq_of_length (by simp [hlen])
    rw [hx', List.append_cancel_right this]

theorem cut_stable (D x t t' : Bytes) (h : cut D (x ++ D ++ t) = some x) : cut D (x ++ D ++ t') = some x := by
  rw [cut_eq_some_iff] at h ⊢
  refine ⟨List.prefix_append _ _, ?_⟩
  intro y hy
  apply Classical.byContradiction
  intro hlt
  have hlen : (y ++ D).length ≤ (x ++ D).length := by simp; omega
  have h1 : y ++ D <+: x ++ D := List.prefix_of_prefix_length_le hy (List.prefix_append _ _) hlen
  have := h.2 y (h1.trans (List.prefix_append _ _))
  omega

theorem containsSub_iff (s D : Bytes) : containsSub s D = true ↔ ∃ y, y ++ D <+: s := by
  unfold containsSub
  constructor
  · intro h
    cases hc : cut D s with
    | none => simp [hc] at h
    | some x => exact ⟨x, (cut_some_spec D s x hc).1⟩
  · rintro ⟨y, hy⟩
    obtain ⟨x, hx, _⟩ := cut_of_occ D s y hy
    simp [hx]

theorem cut_byte_none (d : UInt8) (x : Bytes) (h : d ∉ x) : cut [d] x = none := by
  cases hc : cut [d] x with
  | none => rfl
  | some y => exact absurd ((cut_some_spec _ _ _ hc).1.subset (by simp)) h

theorem cut_byte_some (d : UInt8) (x t : Bytes) (h : d ∉ x) : cut [d] (x ++ d :: t) = some x := by
  rw [cut_eq_some_iff]
  refine ⟨⟨t, by simp⟩, fun y hy => ?_⟩
  -- an earlier occurrence would lie within `x`
  apply Classical.byContradiction
  intro hlt
  have : y ++ [d] <+: x :=
    List.prefix_of_prefix_length_le hy (List.prefix_append x _) (by simp only [List.length_append, List.length_singleton]; omega)
  exact h (this.subset (by simp))

theorem not_mem_of_cut_byte_some (d : UInt8) (s x : Bytes) (h : cut [d] s = some x) : d ∉ x := by
  intro hm
  obtain ⟨y, z, hyz⟩ := List.append_of_mem hm
  obtain ⟨hp, hmin⟩ := cut_some_spec _ _ _ h
  have : (y ++ [d]) <+: s :=
    (show (y ++ [d]) <+: x ++ [d] from ⟨z ++ [d], by rw [hyz]; simp⟩).trans hp
  have := hmin y this
  rw [hyz] at this
  simp at this
  omega

theorem not_mem_of_cut_byte_none (d : UInt8) (s : Bytes) (h : cut [d] s = none) : d ∉ s := by
  intro hm
  obtain ⟨y, z, hyz⟩ := List.append_of_mem hm
  exact cut_none_spec _ _ h y ⟨z, by rw [hyz]; simp⟩

end Vgw
