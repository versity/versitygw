/-
  Model.ChunkSigned on rendered (valid) streams: the headers parse to what was rendered, and one
  induction over the chunk list (`parBody_stream`) for the whole stream and for every proper prefix of it.
-/
import Vgw.Lemmas.ChunkMerge
import Vgw.Lemmas.ChunkSpec
namespace Vgw.Lemmas.ChunkSigned
open Vgw Vgw.Spec.Chunked Vgw.Model
open Vgw.Lemmas.ChunkSpec (chunkSig_no_cr trailerSig_no_cr payloadOf_cons)

/-- the reader configuration that belongs to the spec parameters -/
def signedCfg (P : Params) (tr : Bool) (csumLen : Nat) : ChunkSigned.Cfg :=
  { sha := P.sha, hmac := P.hmac, csum := P.csum, signingKey := P.key, amzDate := P.amzDate, scope := P.scope,
    trailer := if tr then P.trailerName else [], csumLen := csumLen }

/-- side conditions on the hash family / trailer name under which the signed reader can work at all -/
structure SignedHyps (P : Params) (tr : Bool) (csumLen : Nat) : Prop where
  hmac_ne : ∀ k m, P.hmac k m ≠ []
  name_ne : P.trailerName ≠ []
  name_colon : (58 : UInt8) ∉ P.trailerName
  csum_len : ∀ x, (P.csum x).length = csumLen
  /-- every chunk header of a valid stream (with the CRLF in front of it and, for the final chunk,
  the trailer behind it) fits the 1024 bytes the reader is willing to stash; the summands are the wire
  literals: CRLF, size, ";chunk-signature=", signature, CRLF, (name ":" checksum CRLF
  "x-amz-trailer-signature:" signature CRLF), CRLF -/
  hdr_small : ∀ prev d acc, 2 + maxSizeDigits + sigIntro.length + (chunkSig P prev d).length + 2 +
    (P.trailerName.length + 1 + (checksumB64 P acc).length + 2 + trailerSigIntro.length +
      (trailerSig P (chunkSig P prev d) acc).length + 2) + 2 ≤ ChunkSigned.maxHeaderSize

theorem trailerSigIntro_eq : trailerSigIntro = ChunkSigned.trailerSignatureHeader ++ [58] := by decide
theorem payloadAlgo_eq : payloadAlgo = ChunkSigned.streamPayloadAlgo := by decide
theorem trailerAlgo_eq : trailerAlgo = ChunkSigned.streamPayloadTrailerAlgo := by decide
theorem emptyHashHex_eq : emptyHashHex = ChunkSigned.zeroLenSig := by decide

theorem chunkSig_ne_nil {P : Params} (hne : ∀ k m, P.hmac k m ≠ []) (prev d : Bytes) : chunkSig P prev d ≠ [] :=
  hexEncode_ne_nil _ (hne _ _)

open Vgw.Lemmas.ChunkParse Vgw.Lemmas.ChunkMerge

theorem sigIntro_drop : sigIntro.drop 1 = ChunkSigned.chunkSignatureLit := by decide

theorem parseCore_chunk (cfg : ChunkSigned.Cfg) (h sig rest : Bytes) (n : Nat) (hh : IsHex h n) (hn0 : n ≠ 0)
    (hnb : n ≤ chunkBound) (hsig : (13 : UInt8) ∉ sig) :
    ChunkSigned.parseCore cfg (h ++ 59 :: (sigIntro.drop 1 ++ (sig ++ [13, 10])) ++ rest) =
      .ok ({ chunkSize := n, sig := sig }, rest) := by
  simp only [List.append_assoc, List.cons_append, List.nil_append, sigIntro_drop]
  rw [parseCore_front cfg _ (isHex_not_mem hh 59 not_hex_59) (parseIntHex64_of_isHex hh hnb) (by omega) hsig,
    afterSig, if_neg (by omega)]
  rfl

theorem parseCore_final (P : Params) (tr : Bool) (L : Nat) (H : SignedHyps P tr L) (hz prev acc : Bytes)
    (hh : IsHex hz 0) :
    ChunkSigned.parseCore (signedCfg P tr L) (renderSigned P tr prev acc [] hz) =
      .ok (ChunkSigned.Parsed.mk 0 (chunkSig P prev []) (if tr then trailerSig P (chunkSig P prev []) acc else [])
            (if tr then checksumB64 P acc else []), []) := by
  rw [ChunkSpec.renderSigned_nil, sigIntro_drop, parseCore_front _ _ (isHex_not_mem hh 59 not_hex_59)
    (parseIntHex64_of_isHex hh (Nat.zero_le _)) (Int.le_refl 0) (chunkSig_no_cr P prev []), afterSig,
    if_pos (show ((0 : Nat) : Int) = 0 from rfl)]
  cases tr with
  | false => simp [signedCfg, ChunkSpec.signedTrailer, readAndSkip]
  | true =>
    have e : 10 :: ChunkSpec.signedTrailer P true prev acc = [10] ++ (P.trailerName ++ 58 :: (checksumB64 P acc ++ 13 ::
        ([10] ++ (ChunkSigned.trailerSignatureHeader ++ 58 :: (trailerSig P (chunkSig P prev []) acc ++ 13 ::
          ([10, 13, 10] ++ [])))))) := by
      simp [ChunkSpec.signedTrailer, ChunkSpec.trailerLine, trailerSigIntro_eq]
    have hcs : (13 : UInt8) ∉ checksumB64 P acc := b64Encode_not_mem _ 13 (by decide) (by decide)
    have hvalid : ChunkSigned.isValidChecksum (signedCfg P true L) (checksumB64 P acc) = true := by
      simp [ChunkSigned.isValidChecksum, checksumB64, b64DecodedLen_encode, H.csum_len, signedCfg]
    have h58 : (58 : UInt8) ∉ ChunkSigned.trailerSignatureHeader := by decide
    rw [e, ChunkSigned.parseTrailer]
    simp only [readAndSkip_append, readUntil_append 58 P.trailerName _ H.name_colon,
      readUntil_append 13 _ _ hcs, readUntil_append 58 _ _ h58, readUntil_append 13 _ _ (trailerSig_no_cr P _ acc),
      hvalid]
    simp [signedCfg, H.name_ne, readAndSkip]

def preOf (first : Bool) : Bytes := if first then [] else [13, 10]

theorem preOf_length_le (b : Bool) : (preOf b).length ≤ 2 := by cases b <;> simp [preOf]

theorem chunkHeader_length_le {P : Params} {tr : Bool} {L : Nat} (H : SignedHyps P tr L) (b : Bool) {h : Bytes}
    (prev d : Bytes) (hh : h.length ≤ maxSizeDigits) :
    (preOf b ++ (h ++ 59 :: (sigIntro.drop 1 ++ (chunkSig P prev d ++ [13, 10])))).length ≤ ChunkSigned.maxHeaderSize := by
  have := H.hdr_small prev d []
  have := preOf_length_le b
  have : (sigIntro.drop 1).length + 1 = sigIntro.length := by decide
  simp only [List.length_append, List.length_cons, List.length_nil]
  omega

theorem finalHeader_length_le {P : Params} {tr : Bool} {L : Nat} (H : SignedHyps P tr L) (b : Bool) {hz : Bytes}
    (prev acc : Bytes) (hh : hz.length ≤ maxSizeDigits) :
    (preOf b ++ renderSigned P tr prev acc [] hz).length ≤ ChunkSigned.maxHeaderSize := by
  have := H.hdr_small prev [] acc
  have := preOf_length_le b
  cases tr <;> simp only [renderSigned, List.length_append, crlf, List.length_cons, List.length_nil, if_true,
    Bool.false_eq_true, if_false] <;> omega

theorem parseHeader_of_core (cfg : ChunkSigned.Cfg) (first : Bool) (X rest : Bytes) (r : ChunkSigned.Parsed)
    (h : ChunkSigned.parseCore cfg (X ++ rest) = .ok (r, rest)) :
    ChunkSigned.parseHeader cfg first (preOf first ++ X ++ rest) = .ok (r, rest) := by
  cases first with
  | true => rw [parseHeader_first]; exact h
  | false => rw [List.append_assoc, preOf, if_neg nofun, parseHeader_next]; exact h

theorem parseHeader_prefix_needMore {cfg : ChunkSigned.Cfg} {first : Bool} {A F X : Bytes} {r : ChunkSigned.Parsed}
    (h : ChunkSigned.parseHeader cfg first A = .ok (r, [])) (hF : F ++ X = A) (hX : X ≠ []) :
    ChunkSigned.parseHeader cfg first F = .error (.rd .eof) := by
  cases hp : ChunkSigned.parseHeader cfg first F with
  | ok rr =>
    have := (parseHeader_ok hp).1.fwd X
    rw [hF, h] at this
    exact absurd (List.append_eq_nil_iff.1 (congrArg (·.2) (Except.ok.inj this)).symm).2 hX
  | error pe =>
    have persists : Definite pe → False := fun hd => by
      have := parseHeader_fwd_err X hd hp
      rw [hF, h] at this
      contradiction
    cases pe with
    | rd x =>
      cases x with
      | eof => rfl
      | mismatch => exact (persists trivial).elim
    | fail x => exact (persists trivial).elim

theorem hdr_chunk {cfg : ChunkSigned.Cfg} {st : ChunkSigned.State} {A rest sig : Bytes} {n : Int}
    (hst : st.stash = [])
    (hp : ChunkSigned.parseHeader cfg st.isFirstHeader (A ++ rest) = .ok ({ chunkSize := n, sig := sig }, rest))
    (hn0 : n ≠ 0) :
    ChunkSigned.parseChunkHeaderBytes cfg st (A ++ rest) =
      ({ st with stash := [], isFirstHeader := false }, .chunk n sig A.length) := by
  rw [hdr_eq, hst, if_neg (by decide), List.nil_append, hp]
  simp only [hdrOf, if_neg hn0, List.length_append, Int.natCast_add, Int.add_sub_cancel]

theorem hdr_final {cfg : ChunkSigned.Cfg} {st : ChunkSigned.State} {A : Bytes} {r : ChunkSigned.Parsed}
    (hst : st.stash = []) (hp : ChunkSigned.parseHeader cfg st.isFirstHeader A = .ok (r, [])) (hr : r.chunkSize = 0) :
    ChunkSigned.parseChunkHeaderBytes cfg st A =
      (if cfg.trailer ≠ [] then { st with stash := [], trailerSig := r.trailerSig, parsedChecksum := r.checksum }
        else { st with stash := [] }, .chunk 0 r.sig 0) := by
  rw [hdr_eq, hst, if_neg (by decide), List.nil_append, hp]
  simp only [hdrOf, if_pos hr]

theorem hdr_incomplete {cfg : ChunkSigned.Cfg} {st : ChunkSigned.State} {A F X : Bytes} {r : ChunkSigned.Parsed}
    (hst : st.stash = []) (he : st.isEOF = false)
    (h : ChunkSigned.parseHeader cfg st.isFirstHeader A = .ok (r, [])) (hF : F ++ X = A) (hX : X ≠ []) :
    ChunkSigned.parseChunkHeaderBytes cfg st F = ({ st with stash := F }, .skip) := by
  have := hdr_needMore (q := F) (by rw [hst]; decide) he (by rw [hst]; exact parseHeader_prefix_needMore h hF hX)
  rwa [hst] at this

theorem checkSignature_ok (P : Params) (tr : Bool) (L : Nat) (st : ChunkSigned.State)
    (h : st.parsedSig = chunkSig P st.prevSig st.chunkAcc) :
    ChunkSigned.checkSignature (signedCfg P tr L) st =
      .ok { st with chunkAcc := [], prevSig := st.parsedSig, parsedSig := [] } := by
  have e : hexEncode ((signedCfg P tr L).hmac (signedCfg P tr L).signingKey
      (ChunkSigned.chunkStringToSign (signedCfg P tr L) st)) = st.parsedSig := by
    rw [h]
    simp [chunkSig, ChunkSigned.chunkStringToSign, ChunkSigned.stringToSignPrefix, signedCfg, payloadAlgo_eq,
      emptyHashHex_eq]
  unfold ChunkSigned.checkSignature
  simp only [e]
  simp

theorem finalChunk_valid (P : Params) (tr : Bool) (L : Nat) (H : SignedHyps P tr L) {st : ChunkSigned.State} (acc : Bytes)
    (hsig : st.parsedSig = chunkSig P st.prevSig [])
    (htr : tr = true → st.parsedChecksum = checksumB64 P acc ∧ st.trailerSig = trailerSig P st.parsedSig acc ∧
      st.csumAcc = acc) :
    ∃ st', ChunkSigned.finalChunk (signedCfg P tr L) st = (st', ⟨[], .eof⟩) := by
  unfold ChunkSigned.finalChunk
  simp only [checkSignature_ok P tr L { st with chunkAcc := [] } hsig]
  cases tr with
  | false => exact ⟨_, if_neg (by simp [signedCfg])⟩
  | true =>
    obtain ⟨h1, h2, h3⟩ := htr rfl
    have hc : ChunkSigned.verifyChecksum (signedCfg P true L)
        { st with chunkAcc := [], prevSig := st.parsedSig, parsedSig := [] } = .ok () := by
      simp [ChunkSigned.verifyChecksum, h1, h3, checksumB64, signedCfg]
    have ht : ChunkSigned.verifyTrailerSignature (signedCfg P true L)
        { st with chunkAcc := [], prevSig := st.parsedSig, parsedSig := [] } = .ok () := by
      simp [ChunkSigned.verifyTrailerSignature, trailerSig, ChunkSigned.trailerStringToSign,
        ChunkSigned.stringToSignPrefix, signedCfg, trailerAlgo_eq, h1, h2]
    rw [if_pos (by simp [signedCfg, H.name_ne])]
    simp only [hc, ht]
    exact ⟨_, rfl⟩

/-- the reader state behind the pending signature check, at a chunk boundary of a rendered stream whose
payload so far is `acc` -/
structure Checked (tr : Bool) (st : ChunkSigned.State) (acc : Bytes) : Prop where
  stash : st.stash = []
  parsedSig : st.parsedSig = []
  chunkAcc : st.chunkAcc = []
  csum : tr = true → st.csumAcc = acc

theorem Checked.init (tr e : Bool) (seed : Bytes) : Checked tr (setE e (ChunkSigned.init seed)) [] :=
  ⟨rfl, rfl, rfl, fun _ => rfl⟩

/-- the state behind a data chunk `d` and the check of its signature -/
def afterChunk (P : Params) (tr : Bool) (L : Nat) (st : ChunkSigned.State) (d : Bytes) : ChunkSigned.State :=
  { (ChunkSigned.hashWrite (signedCfg P tr L) { ({ st with stash := [], isFirstHeader := false } :
      ChunkSigned.State) with parsedSig := chunkSig P st.prevSig d, chunkDataLeft := 0 } d) with
    chunkAcc := [], prevSig := chunkSig P st.prevSig d, parsedSig := [] }

theorem Checked.next {P : Params} {tr : Bool} {L : Nat} (H : SignedHyps P tr L) {st : ChunkSigned.State}
    {acc : Bytes} (hc : Checked tr st acc) (d : Bytes) : Checked tr (afterChunk P tr L st d) (acc ++ d) :=
  ⟨rfl, rfl, rfl, fun ht => by simp [afterChunk, ChunkSigned.hashWrite, signedCfg, ht, H.name_ne, hc.csum ht]⟩

/-- behind the data of a chunk the pending check of its signature passes -/
theorem pendingCheck_afterChunk {P : Params} {tr : Bool} {L : Nat} (H : SignedHyps P tr L) {st : ChunkSigned.State}
    {acc : Bytes} (hc : Checked tr st acc) (d : Bytes) :
    pendingCheck (signedCfg P tr L) (ChunkSigned.hashWrite (signedCfg P tr L)
      { ({ st with stash := [], isFirstHeader := false } : ChunkSigned.State) with
        parsedSig := chunkSig P st.prevSig d, chunkDataLeft := 0 } d) = .ok (afterChunk P tr L st d) :=
  (if_pos (chunkSig_ne_nil H.hmac_ne _ _)).trans (checkSignature_ok P tr L _
    (by simp [ChunkSigned.hashWrite, hc.chunkAcc]))

/-- the final chunk: all of it gives a clean EOF, a proper prefix of it is stashed -/
theorem parBody_stream_final (P : Params) (tr : Bool) (L : Nat) (H : SignedHyps P tr L)
    (K : ChunkSigned.State → Bytes → Res) {st : ChunkSigned.State} {acc hz F G : Bytes} (hc : Checked tr st acc)
    (hhz : IsHex hz 0) (hFG : F ++ G = preOf st.isFirstHeader ++ renderSigned P tr st.prevSig acc [] hz)
    (hG : G ≠ [] → st.isEOF = false ∧ hz.length ≤ maxSizeDigits) :
    ∃ st' o, ChunkSigned.parBody (signedCfg P tr L) K st F = (st', ⟨o, if G = [] then .eof else .nil⟩) ∧
      (G = [] → o = []) ∧ (G ≠ [] → st'.stash.length ≤ ChunkSigned.maxHeaderSize) := by
  have hph := parseHeader_of_core (signedCfg P tr L) st.isFirstHeader _ [] _
    (by rw [List.append_nil]; exact parseCore_final P tr L H hz st.prevSig acc hhz)
  rw [List.append_nil] at hph
  by_cases hG0 : G = []
  · subst hG0
    rw [List.append_nil] at hFG
    subst hFG
    rw [parBody_final _ (hdr_final hc.stash hph rfl) (chunkSig_ne_nil H.hmac_ne _ _), if_pos rfl]
    suffices h : ∃ st', ChunkSigned.finalChunk (signedCfg P tr L) _ = (st', ⟨[], .eof⟩) by
      obtain ⟨st', hf⟩ := h
      exact ⟨st', [], hf, fun _ => rfl, fun h => absurd rfl h⟩
    refine finalChunk_valid P tr L H acc ?_ (fun ht => ?_)
    · by_cases h : (signedCfg P tr L).trailer ≠ []
      · rw [if_pos h]
      · rw [if_neg h]
    · subst ht
      rw [if_pos (show (signedCfg P true L).trailer ≠ [] from H.name_ne)]
      exact ⟨rfl, rfl, hc.csum rfl⟩
  · rw [parBody_skip _ (hdr_incomplete hc.stash (hG hG0).1 hph hFG hG0), if_neg hG0]
    refine ⟨_, [], rfl, fun h => absurd h hG0, fun _ => ?_⟩
    refine Nat.le_trans ?_ (finalHeader_length_le H st.isFirstHeader st.prevSig acc (hG hG0).2)
    rw [← hFG, List.length_append]
    exact Nat.le_add_right _ _

/-- a data chunk: `F` ends inside its header (stashed) or inside its data (handed out), or the activation
goes on behind the chunk with what is left of `F` -/
theorem parBody_stream_chunk (P : Params) (tr : Bool) (L : Nat) (H : SignedHyps P tr L)
    (K : ChunkSigned.State → Bytes → Res) (hK : ∀ st' p', (K st' p').2.out.length ≤ p'.length)
    {st : ChunkSigned.State} {acc h d T F G : Bytes} (hc : Checked tr st acc) (hhd : IsHex h d.length) (hdne : d ≠ [])
    (hdb : d.length ≤ chunkBound) (hT : T ≠ [])
    (hFG : F ++ G = preOf st.isFirstHeader ++ (h ++ 59 :: (sigIntro.drop 1 ++ (chunkSig P st.prevSig d ++ [13, 10]))) ++
      (d ++ T))
    (hFmax : (F.length : Int) ≤ ChunkSigned.intMax) (hG : G ≠ [] → st.isEOF = false ∧ h.length ≤ maxSizeDigits) :
    (G ≠ [] ∧ ∃ st' o, ChunkSigned.parBody (signedCfg P tr L) K st F = (st', ⟨o, .nil⟩) ∧
      st'.stash.length ≤ ChunkSigned.maxHeaderSize) ∨
    ∃ F'', F'' ++ G = T ∧ F''.length ≤ F.length ∧ ChunkSigned.parBody (signedCfg P tr L) K st F =
      ChunkSigned.prepend d (K (ChunkSigned.hashWrite (signedCfg P tr L)
        { ({ st with stash := [], isFirstHeader := false } : ChunkSigned.State) with
          parsedSig := chunkSig P st.prevSig d, chunkDataLeft := 0 } d) F'') := by
  have hdpos : d.length ≠ 0 := fun e => hdne (List.length_eq_zero_iff.1 e)
  have hTl := List.length_pos_iff.2 hT
  generalize hHd : preOf st.isFirstHeader ++ (h ++ 59 :: (sigIntro.drop 1 ++ (chunkSig P st.prevSig d ++ [13, 10]))) = Hd
    at hFG
  have hphd : ∀ Y, ChunkSigned.parseHeader (signedCfg P tr L) st.isFirstHeader (Hd ++ Y) =
      .ok ({ chunkSize := d.length, sig := chunkSig P st.prevSig d }, Y) := fun Y =>
    hHd ▸ parseHeader_of_core _ _ _ Y _
      (parseCore_chunk _ h _ Y d.length hhd hdpos hdb (chunkSig_no_cr P st.prevSig d))
  rcases split_prefix F G Hd _ hFG with ⟨hlt, X, hXne, hFX⟩ | ⟨F', rfl, hF'G⟩
  · -- `F` ends inside the header
    have hG0 : G ≠ [] := by
      intro e
      have := congrArg List.length hFG
      simp only [e, List.length_append, List.length_nil] at this
      omega
    have hph := hphd []
    rw [List.append_nil] at hph
    refine .inl ⟨hG0, _, [], parBody_skip _ (hdr_incomplete hc.stash (hG hG0).1 hph hFX hXne), ?_⟩
    exact Nat.le_of_lt (Nat.lt_of_lt_of_le hlt
      (hHd ▸ chunkHeader_length_le H st.isFirstHeader st.prevSig d (hG hG0).2))
  · -- `F` covers the header: a data phase for `d.length` bytes
    have hHdl : ((Hd ++ F').length : Int) ≤ ChunkSigned.intMax := hFmax
    rw [parBody_chunk _ (hdr_chunk hc.stash (hphd F') (by simpa using hdpos)) (chunkSig_ne_nil H.hmac_ne _ _)
        (by simpa using hdpos),
      cont_eq_dataPhase _ _ ⟨by omega, by simp only [List.length_append]; omega⟩ (Int.natCast_nonneg _) hHdl hK,
      Int.toNat_natCast, List.drop_left]
    unfold dataPhase
    by_cases hle : (F'.length : Int) > d.length
    · rcases split_prefix F' G d T hF'G with ⟨hlt, _⟩ | ⟨F'', rfl, hF''G⟩
      · omega
      · exact .inr ⟨F'', hF''G, by simp only [List.length_append]; omega,
          by rw [if_pos hle, Int.toNat_natCast, List.take_left, List.drop_left]⟩
    · have hG0 : G ≠ [] := by
        intro e
        have := congrArg List.length hF'G
        simp only [e, List.length_append, List.length_nil] at this
        omega
      exact .inl ⟨hG0, _, _, if_neg hle, Nat.zero_le _⟩

/-- **The core induction**: `parseAndRemoveChunkInfo`, behind its signature check, on the first part `F` of
the rest `F ++ G` of a valid signed stream, from a chunk boundary on.  `F` is all of it: the rest of the
payload and a clean EOF.  If not: no error, and what is left in the stash is a proper prefix of one chunk
header. -/
theorem parBody_stream (P : Params) (tr : Bool) (L : Nat) (H : SignedHyps P tr L) :
    ∀ (cs : List Chunk) (hz : Bytes) (st : ChunkSigned.State) (acc : Bytes) (fuel : Nat) (F G : Bytes),
      ChunkSpec.ChunksWF cs → IsHex hz 0 → (payloadOf cs).length ≤ chunkBound → cs.length ≤ fuel →
      Checked tr st acc → F ++ G = preOf st.isFirstHeader ++ renderSigned P tr st.prevSig acc cs hz →
      (F.length : Int) ≤ ChunkSigned.intMax →
      (G ≠ [] → st.isEOF = false ∧ (∀ c ∈ cs, c.1.length ≤ maxSizeDigits) ∧ hz.length ≤ maxSizeDigits) →
      ∃ st' o, ChunkSigned.parBody (signedCfg P tr L) (ChunkSigned.parseAndRemove (signedCfg P tr L) fuel) st F =
          (st', ⟨o, if G = [] then .eof else .nil⟩) ∧
        (G = [] → o = payloadOf cs) ∧ (G ≠ [] → st'.stash.length ≤ ChunkSigned.maxHeaderSize) := by
  intro cs
  induction cs with
  | nil =>
    intro hz st acc fuel F G _ hhz _ _ hc hFG _ hG
    exact parBody_stream_final P tr L H _ hc hhz hFG (fun h => ⟨(hG h).1, (hG h).2.2⟩)
  | cons c cs ih =>
    obtain ⟨h, d⟩ := c
    intro hz st acc fuel F G hwf hhz hbound hfuel hc hFG hFmax hG
    obtain ⟨fuel, rfl⟩ := Nat.exists_eq_succ_of_ne_zero (Nat.ne_of_gt (Nat.lt_of_lt_of_le (Nat.succ_pos _) hfuel))
    obtain ⟨hhd, hdne⟩ := hwf (h, d) (by simp)
    simp only at hhd hdne
    rw [payloadOf_cons] at hbound ⊢
    simp only [List.length_append] at hbound
    rw [ChunkSpec.renderSigned_cons] at hFG
    rcases parBody_stream_chunk P tr L H _ (par_out_le _ _)
        (T := crlf ++ renderSigned P tr (chunkSig P st.prevSig d) (acc ++ d) cs hz) hc hhd hdne
        (Nat.le_trans (Nat.le_add_right _ _) hbound) (List.append_ne_nil_of_left_ne_nil (by decide) _)
        (by simpa only [List.append_assoc, List.cons_append, List.nil_append] using hFG) hFmax
        (fun hG0 => ⟨(hG hG0).1, (hG hG0).2.1 (h, d) (by simp)⟩) with
      ⟨hG0, st', o, hr, hs⟩ | ⟨F'', hF''G, hl, hr⟩
    · exact ⟨st', o, by rw [hr, if_neg hG0], fun e => absurd e hG0, fun _ => hs⟩
    · -- behind the chunk: its signature is checked, then the rest of the chunks
      rw [hr, ChunkSigned.parseAndRemove, parStep_ok _ F'' (pendingCheck_afterChunk H hc d)]
      obtain ⟨st4, o, hr, ho, hsl⟩ := ih hz _ (acc ++ d) fuel F'' G (fun c hc => hwf c (by simp [hc])) hhz
        (Nat.le_trans (Nat.le_add_left _ _) hbound) (Nat.le_of_succ_le_succ hfuel) (hc.next H d) hF''G
        (Int.le_trans (Int.ofNat_le.2 hl) hFmax)
        (fun hG0 => ⟨(hG hG0).1, fun c hc => (hG hG0).2.1 c (by simp [hc]), (hG hG0).2.2⟩)
      refine ⟨st4, d ++ o, (congrArg (ChunkSigned.prepend d) hr).trans ?_, fun hG0 => by rw [ho hG0], hsl⟩
      by_cases hG0 : G = []
      · rw [if_pos hG0]; rfl
      · rw [if_neg hG0]; rfl

theorem renderSigned_ne_nil (P : Params) (tr : Bool) (prev acc : Bytes) (cs : List Chunk) (hz : Bytes) :
    renderSigned P tr prev acc cs hz ≠ [] :=
  List.ne_nil_of_length_pos (Nat.zero_lt_of_lt ((ChunkSpec.signed_framing P tr).length_lt hz cs (prev, acc)))

def variantOf (tr : Bool) : Variant := if tr then .signedTrailer else .signed

theorem render_variantOf (P : Params) (tr : Bool) (cs : List Chunk) (hz : Bytes) :
    render P (variantOf tr) cs hz = renderSigned P tr P.seedSig [] cs hz := by
  cases tr <;> rfl

theorem read_stream (P : Params) (tr : Bool) (L : Nat) (H : SignedHyps P tr L) (cs : List Chunk) (hz F G : Bytes)
    (hcs : ChunkSpec.ChunksWF cs) (hhz : IsHex hz 0) (hpl : (payloadOf cs).length ≤ chunkBound)
    (hF : F ≠ []) (hFG : F ++ G = renderSigned P tr P.seedSig [] cs hz) (hmax : (F.length : Int) ≤ ChunkSigned.intMax)
    (e : Bool) (cap : Nat)
    (hG : G ≠ [] → e = false ∧ (∀ c ∈ cs, c.1.length ≤ maxSizeDigits) ∧ hz.length ≤ maxSizeDigits) :
    ∃ st' o, ChunkSigned.read (signedCfg P tr L) (ChunkSigned.init P.seedSig) F e cap =
        (st', ⟨o, if G = [] then .eof else .nil⟩) ∧
      (G = [] → o = payloadOf cs) ∧ (G ≠ [] → st'.stash.length ≤ ChunkSigned.maxHeaderSize) := by
  obtain ⟨st', o, h, ho, hs⟩ := parBody_stream P tr L H cs hz (setE e (ChunkSigned.init P.seedSig)) []
    (F.length + cs.length) F G hcs hhz hpl (Nat.le_add_left _ _) (Checked.init tr e P.seedSig) hFG hmax hG
  refine ⟨st', o, ?_, ho, hs⟩
  rw [read_at_header _ e cap rfl rfl hF,
    parBody_congr _ _ (ChunkSigned.parseAndRemove _ (F.length + cs.length)) _ F
      (fun st' p' hp => par_fuel _ _ _ st' p' hp (by omega)), h]
  by_cases hG0 : G = []
  · rw [if_pos hG0]; rfl
  · rw [if_neg hG0]; rfl

theorem read_whole (P : Params) (tr : Bool) (L : Nat) (H : SignedHyps P tr L) (cs : List Chunk) (hz : Bytes)
    (hcs : ChunkSpec.ChunksWF cs) (hhz : IsHex hz 0) (hpl : (payloadOf cs).length ≤ chunkBound)
    (hmax : ((renderSigned P tr P.seedSig [] cs hz).length : Int) ≤ ChunkSigned.intMax) (eof : Bool) (cap : Nat) :
    ∃ st', ChunkSigned.read (signedCfg P tr L) (ChunkSigned.init P.seedSig)
      (renderSigned P tr P.seedSig [] cs hz) eof cap = (st', ⟨payloadOf cs, .eof⟩) := by
  obtain ⟨st', o, h, ho, _⟩ := read_stream P tr L H cs hz _ [] hcs hhz hpl (renderSigned_ne_nil P tr P.seedSig [] cs hz)
    (List.append_nil _) hmax eof cap
    (fun h => absurd rfl h)
  exact ⟨st', by rw [h, if_pos rfl, ho rfl]⟩

theorem read_prefix (P : Params) (tr : Bool) (L : Nat) (H : SignedHyps P tr L) (cs : List Chunk) (hz : Bytes)
    (hwf : WF cs hz) (F G : Bytes) (hF : F ≠ []) (hG : G ≠ []) (hFG : F ++ G = renderSigned P tr P.seedSig [] cs hz)
    (hmax : (F.length : Int) ≤ ChunkSigned.intMax) (cap : Nat) :
    (ChunkSigned.read (signedCfg P tr L) (ChunkSigned.init P.seedSig) F false cap).2.status = .nil ∧
    (ChunkSigned.read (signedCfg P tr L) (ChunkSigned.init P.seedSig) F false cap).1.stash.length ≤
      ChunkSigned.maxHeaderSize := by
  obtain ⟨st', o, h, _, hs⟩ := read_stream P tr L H cs hz F G hwf.chunks hwf.final hwf.payload hF hFG hmax false cap
    (fun _ => ⟨rfl, hwf.sizes, hwf.finalSize⟩)
  rw [h, if_neg hG]
  exact ⟨rfl, hs hG⟩

end Vgw.Lemmas.ChunkSigned
