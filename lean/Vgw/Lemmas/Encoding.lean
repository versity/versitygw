/- Lemmas about the Go stdlib shim `Go.Encoding`. -/
import Vgw.Go.Encoding
namespace Vgw

theorem readAndSkip_append (lit r : Bytes) : readAndSkip lit (lit ++ r) = .ok r := by
  induction lit with
  | nil => simp [readAndSkip]
  | cons c cs ih => simp [readAndSkip, ih]

theorem readUntil_append (d : UInt8) (a r : Bytes) (h : d ∉ a) :
    readUntil d (a ++ d :: r) = some (a, r) := by
  induction a with
  | nil => simp [readUntil]
  | cons c cs ih =>
    simp at h
    have hne : c ≠ d := fun e => h.1 e.symm
    simp [readUntil, hne, ih h.2]

theorem readUntil_eq_some {d : UInt8} {X a r : Bytes} :
    readUntil d X = some (a, r) ↔ X = a ++ d :: r ∧ d ∉ a := by
  refine ⟨fun h => ?_, fun ⟨e, hn⟩ => e ▸ readUntil_append d a r hn⟩
  induction X generalizing a with
  | nil => simp [readUntil] at h
  | cons b X ih =>
    rw [readUntil] at h
    split at h
    · rename_i hb
      obtain ⟨rfl, rfl⟩ : [] = a ∧ X = r := by simpa using h
      simp [hb]
    · rename_i hb
      split at h
      · rename_i a' r' heq
        obtain ⟨rfl, rfl⟩ : b :: a' = a ∧ r' = r := by simpa using h
        obtain ⟨rfl, hn⟩ := ih heq
        exact ⟨rfl, by simp [hn, Ne.symm hb]⟩
      · simp at h

theorem readUntil_eq_none {d : UInt8} {X : Bytes} (h : d ∉ X) : readUntil d X = none := by
  induction X with
  | nil => rfl
  | cons b X ih =>
    simp only [List.mem_cons, not_or] at h
    simp [readUntil, Ne.symm h.1, ih h.2]

theorem readAndSkip_eq_ok {lit X r : Bytes} : readAndSkip lit X = .ok r ↔ X = lit ++ r := by
  refine ⟨fun h => ?_, fun e => e ▸ readAndSkip_append lit r⟩
  induction lit generalizing X with
  | nil => simpa [readAndSkip] using h
  | cons c cs ih =>
    cases X with
    | nil => simp [readAndSkip] at h
    | cons b X =>
      rw [readAndSkip] at h
      split at h
      · rename_i hb; rw [ih h, hb]; rfl
      · simp at h

theorem readAndSkip_mismatch_append {lit X : Bytes} (g : Bytes) (h : readAndSkip lit X = .error .mismatch) :
    readAndSkip lit (X ++ g) = .error .mismatch := by
  induction lit generalizing X with
  | nil => simp [readAndSkip] at h
  | cons c cs ih =>
    cases X with
    | nil => simp [readAndSkip] at h
    | cons b X =>
      rw [readAndSkip] at h
      rw [List.cons_append, readAndSkip]
      split
      · rename_i hb; rw [if_pos hb] at h; exact ih h
      · rfl

theorem hexDigitsVal_all (s : Bytes) : ∀ (acc n : Nat), hexDigitsVal s acc = some n → ∀ c ∈ s, isHexDigit c = true := by
  induction s with
  | nil => intro _ _ _ c hc; simp at hc
  | cons b bs ih =>
    intro acc n h c hc
    unfold hexDigitsVal at h
    cases hb : hexDigitVal b with
    | none => simp [hb] at h
    | some d =>
      simp [hb] at h
      simp at hc
      rcases hc with rfl | hc
      · simp [isHexDigit, hb]
      · exact ih _ _ h c hc

theorem hexDigitsVal_replicate_zero (n : Nat) (s : Bytes) :
    hexDigitsVal (List.replicate n 48 ++ s) 0 = hexDigitsVal s 0 := by
  induction n with
  | zero => rfl
  | succ n ih => rw [List.replicate_succ, List.cons_append, hexDigitsVal]; exact ih

theorem parseHexDigits_replicate_zero (n : Nat) {s : Bytes} (hs : s ≠ []) :
    parseHexDigits (List.replicate n 48 ++ s) = parseHexDigits s := by
  obtain ⟨c, t, rfl⟩ := List.exists_cons_of_ne_nil hs
  cases n with
  | zero => rfl
  | succ n => exact hexDigitsVal_replicate_zero (n + 1) (c :: t)

theorem not_hex_59 : isHexDigit 59 = false := by decide
theorem not_hex_13 : isHexDigit 13 = false := by decide
theorem not_hex_10 : isHexDigit 10 = false := by decide

theorem hexNibble_range (n : Nat) (h : n < 16) :
    (48 ≤ hexNibble n ∧ hexNibble n ≤ 57) ∨ (97 ≤ hexNibble n ∧ hexNibble n ≤ 102) :=
  (by decide : ∀ n : Fin 16, (48 ≤ hexNibble n.val ∧ hexNibble n.val ≤ 57) ∨
    (97 ≤ hexNibble n.val ∧ hexNibble n.val ≤ 102)) ⟨n, h⟩

theorem hexEncode_range (b : Bytes) : ∀ c ∈ hexEncode b, (48 ≤ c ∧ c ≤ 57) ∨ (97 ≤ c ∧ c ≤ 102) := by
  induction b with
  | nil => intro c hc; simp [hexEncode] at hc
  | cons x xs ih =>
    intro c hc
    simp [hexEncode] at hc
    rcases hc with rfl | rfl | hc
    · exact hexNibble_range _ (by have := x.toNat_lt; omega)
    · exact hexNibble_range _ (by omega)
    · exact ih c hc

theorem hexEncode_not_mem (b : Bytes) (c : UInt8) (hc : c < 48 ∨ (57 < c ∧ c < 97) ∨ 102 < c) : c ∉ hexEncode b := by
  intro hm
  have := hexEncode_range b c hm
  rcases this with ⟨h1, h2⟩ | ⟨h1, h2⟩ <;> rcases hc with h | ⟨h, h'⟩ | h <;>
    simp only [UInt8.le_iff_toNat_le, UInt8.lt_iff_toNat_lt, UInt8.reduceToNat] at * <;> omega

theorem hexEncode_ne_nil (b : Bytes) (h : b ≠ []) : hexEncode b ≠ [] := by
  cases b with
  | nil => exact absurd rfl h
  | cons x xs => simp [hexEncode]

theorem indexCRLFAux_append (a r : Bytes) (i : Nat) (h : (13 : UInt8) ∉ a) :
    indexCRLFAux (a ++ 13 :: 10 :: r) i = ((i + a.length : Nat) : Int) := by
  induction a generalizing i with
  | nil => simp [indexCRLFAux]
  | cons c cs ih =>
    simp at h
    have hne : c ≠ 13 := fun e => h.1 e.symm
    cases cs with
    | nil =>
      simp [indexCRLFAux, hne]
    | cons d ds =>
      have := ih (i + 1) h.2
      simp [indexCRLFAux, hne] at this ⊢
      rw [this]; omega

theorem indexCRLF_append (a r : Bytes) (h : (13 : UInt8) ∉ a) :
    indexCRLF (a ++ 13 :: 10 :: r) = (a.length : Int) := by
  simp [indexCRLF, indexCRLFAux_append a r 0 h]

theorem b64Char_isB64 : ∀ n : Fin 64, isB64 (b64Char n.val) = true := by decide +kernel
theorem b64Char_ne_pad : ∀ n : Fin 64, (b64Char n.val == 61) = false := by decide +kernel

/-- no bound on `n`: beyond 63 `b64Char` is '/' -/
theorem b64Char_ok (n : Nat) : isB64 (b64Char n) = true ∧ (b64Char n == 61) = false := by
  by_cases h : n < 64
  · exact ⟨b64Char_isB64 ⟨n, h⟩, b64Char_ne_pad ⟨n, h⟩⟩
  · have : b64Char n = 47 := by
      unfold b64Char
      rw [if_neg (by omega), if_neg (by omega), if_neg (by omega), if_neg (by omega)]
    rw [this]
    decide

theorem b64Encode_chars (x : Bytes) : ∀ c ∈ b64Encode x, isB64 c = true ∨ c = 61 := by
  fun_induction b64Encode x with
  | case1 => nofun
  | case2 a x =>
    intro c hc
    simp only [List.mem_cons, List.not_mem_nil, or_false] at hc
    rcases hc with rfl | rfl | rfl | rfl
    · exact .inl (b64Char_ok _).1
    · exact .inl (b64Char_ok _).1
    · exact .inr rfl
    · exact .inr rfl
  | case3 a b x y =>
    intro c hc
    simp only [List.mem_cons, List.not_mem_nil, or_false] at hc
    rcases hc with rfl | rfl | rfl | rfl
    · exact .inl (b64Char_ok _).1
    · exact .inl (b64Char_ok _).1
    · exact .inl (b64Char_ok _).1
    · exact .inr rfl
  | case4 a b c rest x y z ih =>
    intro d hd
    simp only [List.mem_cons] at hd
    rcases hd with rfl | rfl | rfl | rfl | hd
    · exact .inl (b64Char_ok _).1
    · exact .inl (b64Char_ok _).1
    · exact .inl (b64Char_ok _).1
    · exact .inl (b64Char_ok _).1
    · exact ih d hd

theorem b64Encode_not_mem (x : Bytes) (c : UInt8) (h1 : isB64 c = false) (h2 : c ≠ 61) : c ∉ b64Encode x := by
  intro hm
  rcases b64Encode_chars x c hm with h | h
  · simp [h1] at h
  · exact h2 h

theorem b64Encode_eq_nil (x : Bytes) : b64Encode x = [] ↔ x = [] := by
  constructor
  · intro h
    match x, h with
    | [], _ => rfl
    | [_], h => simp [b64Encode] at h
    | [_, _], h => simp [b64Encode] at h
    | _ :: _ :: _ :: _, h => simp [b64Encode] at h
  · rintro rfl; rfl

theorem b64LenAux_encode (x : Bytes) : b64LenAux (b64Encode x) = some x.length := by
  fun_induction b64Encode x with
  | case1 => rfl
  | case2 a x => simp [b64LenAux, b64Char_ok]
  | case3 a b x y => simp [b64LenAux, b64Char_ok]
  | case4 a b c rest x y z ih =>
    cases hr : b64Encode rest with
    | nil =>
      rw [(b64Encode_eq_nil rest).1 hr]
      simp [b64LenAux, b64Char_ok]
    | cons e es =>
      rw [hr] at ih
      simp [b64LenAux, b64Char_ok, ih]

theorem b64DecodedLen_encode (x : Bytes) : b64DecodedLen (b64Encode x) = some x.length := by
  unfold b64DecodedLen
  have : (b64Encode x).filter (fun c => c != 10 && c != 13) = b64Encode x := by
    apply List.filter_eq_self.2
    intro c hc
    rcases b64Encode_chars x c hc with h | h
    · have h10 : c ≠ 10 := by intro e; subst e; simp [isB64] at h
      have h13 : c ≠ 13 := by intro e; subst e; simp [isB64] at h
      simp [h10, h13]
    · subst h; decide
  rw [this, b64LenAux_encode]

end Vgw
