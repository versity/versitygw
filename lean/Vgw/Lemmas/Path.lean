/-
  Segments that are neither empty, `.` nor `..` go through `cleanSegs` unchanged, so a path made of them
  (with or without one trailing slash) is already clean.
-/
import Vgw.Go.Path

namespace Vgw.Props.C04
open Vgw Vgw.Go.Path

def Normal (s : Bytes) : Prop := s ≠ [] ∧ s ≠ dot ∧ s ≠ dotdot

end Vgw.Props.C04

namespace Vgw.Go.Path
open Vgw Vgw.Props.C04

theorem cleanSegs_cons_nil (r : Bool) (rest out : List Bytes) :
    cleanSegs r ([] :: rest) out = cleanSegs r rest out := by
  rw [cleanSegs.eq_def]
  exact if_pos (Or.inl rfl)

theorem cleanSegs_cons_normal (r : Bool) {s : Bytes} (rest out : List Bytes)
    (hs : Normal s) : cleanSegs r (s :: rest) out = cleanSegs r rest (s :: out) := by
  rw [cleanSegs.eq_def]
  exact (if_neg fun h => h.elim hs.1 hs.2.1).trans (if_neg hs.2.2)

theorem cleanSegs_append_normal (r : Bool) (ns rest out : List Bytes)
    (h : ∀ s ∈ ns, Normal s) :
    cleanSegs r (ns ++ rest) out = cleanSegs r rest (ns.reverse ++ out) := by
  induction ns generalizing out with
  | nil => rfl
  | cons s ns ih =>
    rw [List.forall_mem_cons] at h
    rw [List.cons_append, cleanSegs_cons_normal r _ _ h.1, ih _ h.2, List.reverse_cons, List.append_assoc]
    rfl

/-- No hypothesis says that `p` is relative: an absolute path has an empty first segment. -/
theorem clean_eq_joinWith {p : Bytes} {ns : List Bytes}
    (hs : splitOn 47 p = ns ∨ splitOn 47 p = ns ++ [[]])
    (hn : ∀ s ∈ ns, Normal s) (hne : ns ≠ []) : clean p = joinWith 47 ns := by
  have hsegs : cleanSegs false (splitOn 47 p) [] = ns := by
    rcases hs with h | h
    · rw [h, ← List.append_nil ns, cleanSegs_append_normal false ns [] [] hn, cleanSegs, List.append_nil,
        List.reverse_reverse, List.append_nil]
    · rw [h, cleanSegs_append_normal false ns [[]] [] hn, cleanSegs_cons_nil, cleanSegs, List.append_nil,
        List.reverse_reverse]
  obtain ⟨n, ns', rfl⟩ := List.exists_cons_of_ne_nil hne
  obtain ⟨x, xs, rfl⟩ := List.exists_cons_of_ne_nil (hn n List.mem_cons_self).1
  obtain ⟨tl, htl⟩ : ∃ tl, splitOn 47 p = (x :: xs) :: tl := hs.elim (fun h => ⟨_, h⟩) fun h => ⟨_, h⟩
  cases p with
  | nil => cases htl
  | cons c cs =>
    have hc : (c == 47) = false := by
      refine beq_false_of_ne ?_
      rintro rfl
      rw [splitOn_cons_sep] at htl
      cases htl
    unfold clean
    dsimp only
    rw [hc, hsegs]
    cases ns' <;> rfl

end Vgw.Go.Path
