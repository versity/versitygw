/-
  The atomic steps of Model.IAM as a relation (`Step`): which program point moves where, under
  which guard, changing which shared components.  `stepCall` is unfolded in `stepCall_cases` only;
  everything else about steps is read off `Step`.
-/
import Vgw.Lemmas.IAMStore
namespace Vgw.Model.IAM
open Vgw
open Vgw.Model.Gw (Account Role)

theorem setCall_length (σ : State) (i : Nat) (c : Call) : (σ.setCall i c).calls.length = σ.calls.length := by
  simp [State.setCall]

theorem lt_of_getElem? {calls : List Call} {i : Nat} {c : Call} (h : calls[i]? = some c) : i < calls.length :=
  (List.getElem?_eq_some_iff.mp h).1

theorem getElem?_setCall_self {σ σ₁ : State} {i : Nat} {c : Call} (c' : Call) (hcalls : σ₁.calls = σ.calls)
    (hi : σ.calls[i]? = some c) : (σ₁.setCall i c').calls[i]? = some c' := by
  simp [State.setCall, hcalls, lt_of_getElem? hi]

theorem getElem?_setCall_ne {σ : State} {i j : Nat} (c' : Call) (h : j ≠ i) :
    (σ.setCall i c').calls[j]? = σ.calls[j]? := by
  simp [State.setCall, Ne.symm h]

theorem forall_setCall {σ σ₁ : State} {i : Nat} {c' : Call} {P : Nat → Call → Prop} (hcalls : σ₁.calls = σ.calls)
    (hi : P i c') (ho : ∀ j cj, j ≠ i → σ.calls[j]? = some cj → P j cj) :
    ∀ j cj, (σ₁.setCall i c').calls[j]? = some cj → P j cj := by
  intro j cj hj
  simp only [State.setCall, hcalls, List.getElem?_set] at hj
  by_cases hij : i = j
  · subst hij
    rw [if_pos rfl] at hj
    split at hj
    · cases hj; exact hi
    · cases hj
  · rw [if_neg hij] at hj; exact ho j cj (Ne.symm hij) hj

theorem forall_invoke {calls : List Call} {op : Op} {P : Nat → Call → Prop}
    (hn : P calls.length ⟨op, .start⟩) (ho : ∀ j cj, calls[j]? = some cj → P j cj) :
    ∀ j cj, (calls ++ [⟨op, .start⟩])[j]? = some cj → P j cj := by
  intro j cj hj
  by_cases hlt : j < calls.length
  · rw [List.getElem?_append_left hlt] at hj; exact ho j cj hj
  · have hlen := lt_of_getElem? hj
    simp only [List.length_append, List.length_singleton] at hlen
    have : j = calls.length := by omega
    subst this
    simp only [List.getElem?_append_right (Nat.le_refl _), Nat.sub_self, List.getElem?_cons_zero,
      Option.some.injEq] at hj
    subst hj; exact hn

theorem getElem?_invoke (v : Variant) (cfg : Cfg) (σ : State) (op : Op) :
    (act v cfg σ (.invoke op)).calls[σ.calls.length]? = some ⟨op, .start⟩ := by
  simp [Model.IAM.act]

/-- program points inside `s.Lock()` … `s.Unlock()` -/
def inW : PC → Bool
  | .mLocked | .mRead _ | .mRemoved _ | .mBackedUp _ | .mTemp _ | .mRenamed | .mFailed _ => true
  | _ => false

/-- program points inside `s.RLock()` … `s.RUnlock()` -/
def inR : PC → Bool
  | .gRLocked _ | .gGot _ _ | .lRLocked | .lGot _ => true
  | _ => false

theorem cacheStep_eq (v : Variant) (cfg : Cfg) (σ : State) (op : Op) :
    ∃ it g, cacheStep v cfg σ op = { σ with items := it, gen := g } := by
  fun_cases cacheStep v cfg σ op <;> exact ⟨_, _, rfl⟩

/-- `Step v cfg σ i op pc σ₁ pc'`: call i, an `op` standing at `pc`, can move to `pc'`, the rest of
the state becoming `σ₁`.  One constructor per atomic step of iam_cache.go / iam_internal.go as
`stepCall` transcribes them (`stepCall_cases`).  Guards on which no invariant depends are left out
(`miss`, `drop`), so `Step` admits a little more than `stepCall`. -/
inductive Step (v : Variant) (cfg : Cfg) (σ : State) (i : Nat) (op : Op) : PC → State → PC → Prop
  | hit {k a} : op = .get k → v.cache = true → σ.items.get σ.now k = some a → Step v cfg σ i op .start σ (.done (.acct a))
  | miss {k} : op = .get k → Step v cfg σ i op .start σ (.gMiss σ.gen)
  | listLock : op = .list → σ.writer = none → Step v cfg σ i op .start { σ with readers := i :: σ.readers } .lRLocked
  | refuse {a} : op = .create a → a.access = cfg.root.access →
      Step v cfg σ i op .start { σ with log := σ.log ++ [⟨i, op, .userExists⟩] } (.done .userExists)
  | lock : op.isMut = true → (∀ a, op = .create a → a.access ≠ cfg.root.access) → σ.writer = none → σ.readers = [] →
      Step v cfg σ i op .start { σ with writer := some i } .mLocked
  | read {b} : σ.main = some b → Step v cfg σ i op .mLocked σ (.mRead b)
  | remove {b} : Step v cfg σ i op (.mRead b) { σ with main := none } (.mRemoved b)
  | backup {b} : Step v cfg σ i op (.mRemoved b) { σ with backup := some b } (.mBackedUp b)
  | fail {b e} : mutate b op = .error e →
      Step v cfg σ i op (.mBackedUp b) { σ with main := some b, log := σ.log ++ [⟨i, op, e⟩] } (.mFailed e)
  | temp {b b'} : mutate b op = .ok b' → Step v cfg σ i op (.mBackedUp b) { σ with temp := some b' } (.mTemp b')
  | commit {b'} : Step v cfg σ i op (.mTemp b')
      { σ with main := some b', temp := none, committed := b', log := σ.log ++ [⟨i, op, .ok⟩] } .mRenamed
  | unlock : Step v cfg σ i op .mRenamed { σ with writer := none } .mCache
  | unlockFailed {e} : Step v cfg σ i op (.mFailed e) { σ with writer := none } (.done e)
  | cache {it g} : cacheStep v cfg σ op = { σ with items := it, gen := g } →
      Step v cfg σ i op .mCache { σ with items := it, gen := g } (.done .ok)
  | rootFetched {g} : op.key = cfg.root.access → Step v cfg σ i op (.gMiss g) σ (.gFetched cfg.root g)
  | getLock {g} : op.key ≠ cfg.root.access → σ.writer = none →
      Step v cfg σ i op (.gMiss g) { σ with readers := i :: σ.readers } (.gRLocked g)
  | getRead {g s} : σ.main = some s → Step v cfg σ i op (.gRLocked g) σ (.gGot (s.find op.key) g)
  | getNone {g} : Step v cfg σ i op (.gGot none g) { σ with readers := σ.readers.filter (· != i) } (.done .noSuchUser)
  | getSome {a g} : Step v cfg σ i op (.gGot (some a) g) { σ with readers := σ.readers.filter (· != i) } (.gFetched a g)
  | store {a g} : v.cache = true → (v.invalidate = true → g = σ.gen) →
      Step v cfg σ i op (.gFetched a g) { σ with items := σ.items.set op.key a (σ.now + cfg.ttl) } (.done (.acct a))
  | drop {a g} : Step v cfg σ i op (.gFetched a g) σ (.done (.acct a))
  | listRead {s} : σ.main = some s → Step v cfg σ i op .lRLocked σ (.lGot s)
  | listDone {s} : Step v cfg σ i op (.lGot s) { σ with readers := σ.readers.filter (· != i) } (.done (.accts (sortAccts s)))

/-- why a call at `pc` does not move: it has returned, its lock is taken, or `users.json` is away -/
def Blocked (σ : State) : PC → Prop
  | .done _ => True
  | .start => ¬ (σ.writer = none ∧ σ.readers = [])
  | .gMiss _ => σ.writer ≠ none
  | .mLocked | .gRLocked _ | .lRLocked => σ.main = none
  | _ => False

theorem stepCall_cases (v : Variant) (cfg : Cfg) (σ : State) (i : Nat) (c : Call) :
    (Blocked σ c.pc ∧ stepCall v cfg σ i c = σ) ∨
    ∃ σ₁ pc', Step v cfg σ i c.op c.pc σ₁ pc' ∧ stepCall v cfg σ i c = σ₁.setCall i ⟨c.op, pc'⟩ := by
  have isNone {w : Option Nat} (h : ¬ w.isNone = true) : w ≠ none := fun e => h (by rw [e]; rfl)
  have free (h : (σ.writer.isNone && σ.readers.isEmpty) = true) : σ.writer = none ∧ σ.readers = [] := by
    simpa only [Bool.and_eq_true, Option.isNone_iff_eq_none, List.isEmpty_iff] using h
  have busy (h : ¬ (σ.writer.isNone && σ.readers.isEmpty) = true) : ¬ (σ.writer = none ∧ σ.readers = []) := by
    simpa only [Bool.and_eq_true, Option.isNone_iff_eq_none, List.isEmpty_iff] using h
  fun_cases stepCall v cfg σ i c
  -- start, lookup: hit, miss
  case case1 hpc k hop a ha =>
    rw [hpc]; split at ha
    · rename_i hv; exact .inr ⟨_, _, .hit hop hv ha, rfl⟩
    · cases ha
  case case2 hpc k hop _ => rw [hpc]; exact .inr ⟨_, _, .miss hop, rfl⟩
  -- start, listing: lock, blocked
  case case3 hpc hop hw => rw [hpc]; exact .inr ⟨_, _, .listLock hop (Option.isNone_iff_eq_none.mp hw), rfl⟩
  case case4 hpc hop hw => rw [hpc]; exact .inl ⟨fun h => isNone hw h.1, rfl⟩
  -- start, create: root key; lock, blocked
  case case5 hpc a hop hr => rw [hpc]; exact .inr ⟨_, _, .refuse hop (beq_iff_eq.mp hr), rfl⟩
  case case6 hpc a hop hr hw =>
    rw [hpc]
    refine .inr ⟨_, _, .lock (hop ▸ rfl) (fun a' e => ?_) (free hw).1 (free hw).2, rfl⟩
    cases hop.symm.trans e; exact fun e => hr (beq_iff_eq.mpr e)
  case case7 hpc a hop hr hw => rw [hpc]; exact .inl ⟨busy hw, rfl⟩
  -- start, update / delete: lock, blocked
  case case8 hpc hw hg hl hc =>
    rw [hpc]
    refine .inr ⟨_, _, .lock ?_ (fun a e => (hc a e).elim) (free hw).1 (free hw).2, rfl⟩
    cases hop : c.op with
    | get k => exact (hg k hop).elim
    | list => exact (hl hop).elim
    | _ => rfl
  case case9 hpc hw _ _ _ => rw [hpc]; exact .inl ⟨busy hw, rfl⟩
  -- mLocked: read, file away
  case case10 hpc b hb => rw [hpc]; exact .inr ⟨_, _, .read hb, rfl⟩
  case case11 hpc hb => rw [hpc]; exact .inl ⟨hb, rfl⟩
  -- mRead … mCache, in the order of `PC`
  case case12 b hpc => rw [hpc]; exact .inr ⟨_, _, .remove, rfl⟩
  case case13 b hpc => rw [hpc]; exact .inr ⟨_, _, .backup, rfl⟩
  case case14 b hpc e he => rw [hpc]; exact .inr ⟨_, _, .fail he, rfl⟩
  case case15 b hpc b' hb' => rw [hpc]; exact .inr ⟨_, _, .temp hb', rfl⟩
  case case16 b' hpc => rw [hpc]; exact .inr ⟨_, _, .commit, rfl⟩
  case case17 hpc => rw [hpc]; exact .inr ⟨_, _, .unlock, rfl⟩
  case case18 e hpc => rw [hpc]; exact .inr ⟨_, _, .unlockFailed, rfl⟩
  case case19 hpc =>
    obtain ⟨it, g, h⟩ := cacheStep_eq v cfg σ c.op
    rw [hpc, h]; exact .inr ⟨_, _, .cache h, rfl⟩
  -- gMiss: root key; lock, blocked
  case case20 g hpc hr => rw [hpc]; exact .inr ⟨_, _, .rootFetched (beq_iff_eq.mp hr), rfl⟩
  case case21 g hpc hr hw =>
    rw [hpc]
    exact .inr ⟨_, _, .getLock (fun e => hr (beq_iff_eq.mpr e)) (Option.isNone_iff_eq_none.mp hw), rfl⟩
  case case22 g hpc hr hw => rw [hpc]; exact .inl ⟨isNone hw, rfl⟩
  -- gRLocked: read, file away; gGot; gFetched
  case case23 g hpc s hs => rw [hpc]; exact .inr ⟨_, _, .getRead hs, rfl⟩
  case case24 g hpc hs => rw [hpc]; exact .inl ⟨hs, rfl⟩
  case case25 g _ hpc => rw [hpc]; exact .inr ⟨_, _, .getNone, rfl⟩
  case case26 g _ a hpc => rw [hpc]; exact .inr ⟨_, _, .getSome, rfl⟩
  case case27 a g hpc σ' =>
    rw [hpc]
    by_cases h : (v.cache && (!v.invalidate || g == σ.gen)) = true
    · have h' := h
      simp only [Bool.and_eq_true, Bool.or_eq_true, Bool.not_eq_true', beq_iff_eq] at h'
      refine .inr ⟨_, _, .store h'.1 (fun hi => h'.2.resolve_left (by rw [hi]; nofun)), ?_⟩
      simp only [σ', if_pos h]
    · exact .inr ⟨_, _, .drop, by simp only [σ', if_neg h]⟩
  -- lRLocked: read, file away; lGot; done
  case case28 hpc s hs => rw [hpc]; exact .inr ⟨_, _, .listRead hs, rfl⟩
  case case29 hpc hs => rw [hpc]; exact .inl ⟨hs, rfl⟩
  case case30 s hpc => rw [hpc]; exact .inr ⟨_, _, .listDone, rfl⟩
  case case31 r hpc => rw [hpc]; exact .inl ⟨trivial, rfl⟩

section
variable {v : Variant} {cfg : Cfg} {σ σ₁ : State} {i : Nat} {op : Op} {pc pc' : PC}

theorem Step.calls (h : Step v cfg σ i op pc σ₁ pc') : σ₁.calls = σ.calls := by
  cases h <;> rfl

theorem Step.committed (h : Step v cfg σ i op pc σ₁ pc') :
    σ₁.committed = σ.committed ∨ pc = .mTemp σ₁.committed := by
  cases h <;> first | exact .inl rfl | exact .inr rfl

theorem Step.log (h : Step v cfg σ i op pc σ₁ pc') :
    σ₁.log = σ.log ∨ ∃ r, σ₁.log = σ.log ++ [⟨i, op, r⟩] := by
  cases h <;> first | exact .inl rfl | exact .inr ⟨_, rfl⟩

theorem Step.writer (h : Step v cfg σ i op pc σ₁ pc') {w : Nat} (hw : σ₁.writer = some w) : w = i ∨ σ.writer = some w := by
  cases h <;> first | exact .inr hw | exact .inl (Option.some.inj hw).symm | cases hw

theorem Step.readers (h : Step v cfg σ i op pc σ₁ pc') {r : Nat} (hr : r ∈ σ₁.readers) : r = i ∨ r ∈ σ.readers := by
  cases h <;> first | exact .inr hr | exact List.mem_cons.mp hr | exact .inr (List.mem_filter.mp hr).1

theorem Step.items_off (hs : Step v cfg σ i op pc σ₁ pc') (hv : v.cache = false) : σ₁.items = σ.items := by
  cases hs
  case store hvc _ => rw [hv] at hvc; cases hvc
  case cache hc => have := congrArg State.items hc; simp [cacheStep, hv] at this; exact this.symm
  all_goals rfl

end

theorem stepAt_ind {v : Variant} {cfg : Cfg} {σ : State} {i : Nat} {P : State → Prop} (h : P σ)
    (hs : ∀ {op pc σ₁ pc'}, σ.calls[i]? = some ⟨op, pc⟩ → Step v cfg σ i op pc σ₁ pc' → P (σ₁.setCall i ⟨op, pc'⟩)) :
    P (stepAt v cfg σ i) := by
  unfold stepAt
  split
  · rename_i c hi
    rcases stepCall_cases v cfg σ i c with ⟨_, he⟩ | ⟨σ₁, pc', hst, he⟩
    · rw [he]; exact h
    · rw [he]; exact hs hi hst
  · exact h

theorem stepAt_other (v : Variant) (cfg : Cfg) (σ : State) (i j : Nat) (hij : j ≠ i) :
    (stepAt v cfg σ i).calls[j]? = σ.calls[j]? :=
  stepAt_ind (P := fun σ' => σ'.calls[j]? = σ.calls[j]?) rfl fun _ hs => by
    rw [getElem?_setCall_ne _ hij, hs.calls]

theorem stepAt_length (v : Variant) (cfg : Cfg) (σ : State) (i : Nat) :
    (stepAt v cfg σ i).calls.length = σ.calls.length :=
  stepAt_ind (P := fun σ' => σ'.calls.length = σ.calls.length) rfl fun _ hs => by
    rw [setCall_length, hs.calls]

theorem stepAt_op (v : Variant) (cfg : Cfg) (σ : State) (i : Nat) (c : Call) (hi : σ.calls[i]? = some c) :
    ∃ pc', (stepAt v cfg σ i).calls[i]? = some ⟨c.op, pc'⟩ :=
  stepAt_ind (P := fun σ' => ∃ pc', σ'.calls[i]? = some ⟨c.op, pc'⟩) ⟨c.pc, hi⟩ fun {op pc σ₁ pc'} hi' hs => by
    rw [hi] at hi'; cases hi'
    exact ⟨pc', getElem?_setCall_self _ hs.calls hi⟩

theorem stepN_ind {v : Variant} {cfg : Cfg} {P : State → Prop} (n m : Nat) :
    ∀ {σ : State}, P σ → (∀ σ, P σ → P (stepAt v cfg σ n)) → P (stepN v cfg σ n m) := by
  induction m with
  | zero => exact fun h _ => h
  | succ m ih => exact fun h hs => ih (hs _ h) hs

theorem run_append (v : Variant) (cfg : Cfg) (σ : State) (a b : List Act) :
    run v cfg σ (a ++ b) = run v cfg (run v cfg σ a) b := by
  simp [Model.IAM.run, List.foldl_append]

theorem run_induction {v : Variant} {cfg : Cfg} {P : State → Prop} {σ : State} (acts : List Act) (h : P σ)
    (hact : ∀ σ a, a ∈ acts → P σ → P (act v cfg σ a)) : P (run v cfg σ acts) := by
  induction acts generalizing σ with
  | nil => exact h
  | cons a rest ih =>
    exact ih (hact σ a (List.mem_cons_self ..) h) (fun σ b hb => hact σ b (List.mem_cons_of_mem _ hb))

end Vgw.Model.IAM
