/-
  Root selection: `Walk` starts `fs.WalkDir` at `prefix[:LastIndex(prefix, "/")]`. Every key that
  carries the prefix lies below that node; if the node does not exist, no key carries the prefix.
-/
import Vgw.Lemmas.WalkRefine
namespace Vgw.Model.Walk
open Vgw Vgw.Spec.List

theorem lastIndexByte_spec (ch : UInt8) : ∀ (s : Bytes) (i : Nat), lastIndexByte ch s = some i →
    (s.take i ++ [ch]) <+: s
  | [], _, h => by simp [lastIndexByte] at h
  | x :: xs, i, h => by
    unfold lastIndexByte at h
    cases hl : lastIndexByte ch xs with
    | some j =>
      simp [hl] at h; subst h
      have := lastIndexByte_spec ch xs j hl
      simpa using this
    | none =>
      simp [hl] at h
      obtain ⟨rfl, rfl⟩ := h
      simp

theorem rootOf_spec (P r : Bytes) (h : rootOf P = some r) : r ≠ [] ∧ (r ++ [slash]) <+: P := by
  unfold rootOf at h
  cases hl : lastIndexByte slash P with
  | none => simp [hl] at h
  | some i =>
    cases i with
    | zero => simp [hl] at h
    | succ j =>
      simp [hl] at h
      have hp := lastIndexByte_spec slash P (j + 1) hl
      rw [h] at hp
      refine ⟨fun e => ?_, hp⟩
      -- an empty root would be the first `j + 1` bytes of an empty prefix, yet the prefix holds a '/'
      rw [e] at h hp
      rcases List.take_eq_nil_iff.1 h with h0 | h0
      · cases h0
      · rw [h0] at hp; simp at hp

theorem findChild_some : ∀ (ts : List Tree) (n : Bytes) (t : Tree), findChild n ts = some t → t ∈ ts ∧ t.name = n
  | [], _, _, h => by simp [findChild] at h
  | u :: us, n, t, h => by
    unfold findChild at h
    split at h
    · rename_i hn
      simp at h; subst h
      exact ⟨by simp, hn⟩
    · have := findChild_some us n t h
      exact ⟨by simp [this.1], this.2⟩

theorem findChild_of_mem : ∀ (ts : List Tree) (t : Tree), wfList ts = true → t ∈ ts → findChild t.name ts = some t
  | [], _, _, h => by simp at h
  | u :: us, t, hw, h => by
    have hw' := (wfList_cons u us).1 hw
    unfold findChild
    rcases List.mem_cons.1 h with rfl | h
    · simp
    · have hne : u.name ≠ t.name := blt_ne _ _ (hw'.2.1 t h)
      rw [if_neg hne]
      exact findChild_of_mem us t hw'.2.2 h

theorem slash_prefix_unique (a a' s : Bytes) (ha : slash ∉ a) (ha' : slash ∉ a')
    (h : (a ++ [slash]) <+: s) (h' : (a' ++ [slash]) <+: s) : a = a' := by
  obtain ⟨t, ht⟩ := h
  obtain ⟨t', ht'⟩ := h'
  have e1 : cut [slash] s = some a := by rw [← ht, List.append_assoc]; exact cut_byte_some slash a t ha
  have e2 : cut [slash] s = some a' := by rw [← ht', List.append_assoc]; exact cut_byte_some slash a' t' ha'
  rw [e1] at e2
  exact Option.some.inj e2

theorem keysNode_shape (g : GetObj) (skip : List Bytes) (b k : Bytes) (t : Tree) (hk : k ∈ keysNode g skip b t) :
    ∃ s, k = b ++ s ∧ ((t.isDir = false ∧ s = t.name) ∨ (t.isDir = true ∧ (t.name ++ [slash]) <+: s)) := by
  cases t with
  | file n => exact ⟨n, ((mem_keysNode_file g skip b n k).1 hk).1, Or.inl ⟨rfl, rfl⟩⟩
  | dir n cs =>
    obtain ⟨r, hr⟩ : (b ++ n ++ [slash]) <+: k := by
      rcases ((mem_keysNode_dir g skip b n k cs).1 hk).2 with ⟨h, _⟩ | h
      · rw [h]; exact List.prefix_refl _
      · exact keysList_prefix g skip cs _ k h
    exact ⟨n ++ [slash] ++ r, by rw [← hr]; simp, Or.inr ⟨rfl, List.prefix_append _ _⟩⟩

theorem keys_below (g : GetObj) (skip : List Bytes) (b n k : Bytes) (ts : List Tree)
    (hw : wfList ts = true) (hk : k ∈ keysList g skip b ts) (hp : (b ++ n ++ [slash]) <+: k) (hn : slash ∉ n) :
    ∃ cs, findChild n ts = some (.dir n cs) ∧ k ∈ keysNode g skip b (.dir n cs) := by
  obtain ⟨t, ht, hkt⟩ := (mem_keysList g skip b ts k).1 hk
  have hts := validName_no_slash _ (wfNode_validName t (wfList_mem ts hw t ht))
  obtain ⟨s, rfl, hs⟩ := keysNode_shape g skip b k t hkt
  have hp' : (n ++ [slash]) <+: s :=
    (List.prefix_append_right_inj b).1 (by simpa [List.append_assoc] using hp)
  rcases hs with ⟨_, rfl⟩ | ⟨hd, hm⟩
  · exact absurd (hp'.subset (by simp)) hts
  · obtain rfl : n = t.name := slash_prefix_unique n t.name s hn hts hp' hm
    cases t with
    | file m => cases hd
    | dir m cs => exact ⟨cs, findChild_of_mem ts _ hw ht, hkt⟩

theorem joinWith_cons2 (sep : UInt8) (a b : Bytes) (r : List Bytes) :
    joinWith sep (a :: b :: r) = a ++ sep :: joinWith sep (b :: r) := rfl

theorem descend_complete (g : GetObj) (skip : List Bytes) : ∀ (elems : List Bytes) (b k : Bytes) (ts : List Tree),
    elems ≠ [] → (∀ e ∈ elems, slash ∉ e) → wfList ts = true → k ∈ keysList g skip b ts →
    (b ++ joinWith slash elems ++ [slash]) <+: k →
    ∃ base n cs, descend elems b ts = some (base, .dir n cs) ∧ k ∈ keysNode g skip base (.dir n cs) ∧
      (∀ e ∈ elems, validElem e = true)
  | [], _, _, _, h, _, _, _, _ => absurd rfl h
  | n :: rest, b, k, ts, _, hs, hw, hk, hp => by
    have hp1 : (b ++ n ++ [slash]) <+: k := by
      refine List.IsPrefix.trans ?_ hp
      cases rest with
      | nil => exact List.prefix_refl _
      | cons m rest => exact ⟨joinWith slash (m :: rest) ++ [slash], by simp [joinWith_cons2]⟩
    obtain ⟨cs, hf, hkn⟩ := keys_below g skip b n k ts hw hk hp1 (hs n (by simp))
    have hwn := wfList_mem ts hw _ (findChild_some ts _ _ hf).1
    have hvn : validElem n = true := by
      have := wfNode_validName _ hwn
      simp [validName, Tree.name] at this
      exact this.1
    cases rest with
    | nil => exact ⟨b, n, cs, by simp [descend, hf], hkn, by simpa using hvn⟩
    | cons m rest =>
      rw [joinWith_cons2] at hp
      -- k is longer than `b/n/`, so it is not the directory object itself
      have hkcs : k ∈ keysList g skip (b ++ n ++ [slash]) cs := by
        refine ((mem_keysNode_dir g skip b n k cs).1 hkn).2.resolve_left fun h => ?_
        have hl := hp.length_le
        rw [h.1] at hl
        simp at hl
      obtain ⟨base, n', cs', hd, hkt, hv⟩ := descend_complete g skip (m :: rest) (b ++ n ++ [slash]) k cs (by simp)
        (fun e he => hs e (by simp [he])) ((wfNode_dir n cs).1 hwn).2 hkcs (by simpa [List.append_assoc] using hp)
      refine ⟨base, n', cs', by rw [descend, hf]; exact hd, hkt, ?_⟩
      intro e he
      rcases List.mem_cons.1 he with rfl | he
      · exact hvn
      · exact hv e he

/-- what the node found by `descend` inherits from the forest -/
structure NodeOK (g : GetObj) (skip : List Bytes) (K : List Bytes) (base : Bytes) (t : Tree) : Prop where
  wf : wfNode t = true
  oc : ocNode t = true
  pop : populatedNode g skip base t = true
  keys : ∀ k ∈ keysNode g skip base t, k ∈ K

structure ListOK (g : GetObj) (skip : List Bytes) (K : List Bytes) (b : Bytes) (ts : List Tree) : Prop where
  wf : wfList ts = true
  oc : ocList ts = true
  pop : populatedList g skip b ts = true
  keys : ∀ k ∈ keysList g skip b ts, k ∈ K

theorem ListOK.mem {g : GetObj} {skip K : List Bytes} {b : Bytes} {ts : List Tree} (h : ListOK g skip K b ts)
    (t : Tree) (ht : t ∈ ts) : NodeOK g skip K b t :=
  ⟨wfList_mem ts h.wf t ht, ocList_mem ts h.oc t ht, populatedList_mem g skip b ts h.pop t ht,
    fun k hk => h.keys k ((mem_keysList g skip b ts k).2 ⟨t, ht, hk⟩)⟩

theorem NodeOK.children {g : GetObj} {skip K : List Bytes} {b n : Bytes} {cs : List Tree}
    (h : NodeOK g skip K b (.dir n cs)) (hn : (b ++ n) ∉ skip) : ListOK g skip K (b ++ n ++ [slash]) cs :=
  ⟨((wfNode_dir n cs).1 h.wf).2, ocNode_dir n cs ▸ h.oc,
    (((populatedNode_dir g skip b n cs).1 h.pop).resolve_left hn).2,
    fun k hk => h.keys k ((mem_keysNode_dir g skip b n k cs).2 ⟨hn, Or.inr hk⟩)⟩

theorem descend_single (n b : Bytes) (ts : List Tree) (base : Bytes) (t : Tree)
    (h : descend [n] b ts = some (base, t)) : base = b ∧ findChild n ts = some t := by
  simp only [descend, Option.map_eq_some_iff, Prod.mk.injEq] at h
  obtain ⟨t', hf, rfl, rfl⟩ := h
  exact ⟨rfl, hf⟩

theorem descend_cons (n m : Bytes) (rest : List Bytes) (b : Bytes) (ts : List Tree) (r : Bytes × Tree)
    (h : descend (n :: m :: rest) b ts = some r) :
    ∃ cs, findChild n ts = some (.dir n cs) ∧ descend (m :: rest) (b ++ n ++ [slash]) cs = some r := by
  unfold descend at h
  cases hf : findChild n ts with
  | none => simp [hf] at h
  | some u =>
    cases u with
    | file x => simp [hf] at h
    | dir x cs =>
      obtain rfl : x = n := (findChild_some ts n _ hf).2
      exact ⟨cs, rfl, by simpa [hf] using h⟩

theorem descend_sound (g : GetObj) (skip K : List Bytes) : ∀ (elems : List Bytes) (b : Bytes) (ts : List Tree)
    (base : Bytes) (t : Tree), descend elems b ts = some (base, t) →
    insideSkip skip (b ++ joinWith slash elems) = false → ListOK g skip K b ts →
    NodeOK g skip K base t
  | [], _, _, _, _, h, _, _ => by simp [descend] at h
  | [n], b, ts, base, t, h, _, hok => by
    obtain ⟨rfl, hf⟩ := descend_single n b ts base t h
    exact hok.mem _ (findChild_some ts n _ hf).1
  | n :: m :: rest, b, ts, base, t, h, hsk, hok => by
    obtain ⟨cs, hf, h'⟩ := descend_cons n m rest b ts _ h
    have hpath : b ++ joinWith slash (n :: m :: rest) = b ++ n ++ [slash] ++ joinWith slash (m :: rest) := by
      rw [joinWith_cons2]; simp
    -- the directories on the way are not skipped: the path would be inside one
    have hns : (b ++ n) ∉ skip := by
      intro hm
      have : insideSkip skip (b ++ joinWith slash (n :: m :: rest)) = true :=
        List.any_eq_true.2 ⟨b ++ n, hm, by rw [hpath, (hasPrefix_iff _ _).2 (List.prefix_append _ _)]; simp⟩
      rw [hsk] at this; cases this
    exact descend_sound g skip K (m :: rest) (b ++ n ++ [slash]) cs base t h'
      (by rw [← hpath]; exact hsk) ((hok.mem _ (findChild_some ts n _ hf).1).children hns)

theorem descend_path : ∀ (elems : List Bytes) (b : Bytes) (ts : List Tree) (base : Bytes) (t : Tree),
    descend elems b ts = some (base, t) → base ++ t.name = b ++ joinWith slash elems
  | [], _, _, _, _, h => by simp [descend] at h
  | [n], b, ts, base, t, h => by
    obtain ⟨rfl, hf⟩ := descend_single n b ts base t h
    simp [joinWith, (findChild_some ts n _ hf).2]
  | n :: m :: rest, b, ts, base, t, h => by
    obtain ⟨cs, _, h'⟩ := descend_cons n m rest b ts _ h
    rw [descend_path (m :: rest) (b ++ n ++ [slash]) cs base t h', joinWith_cons2]; simp

theorem root_baseOK (c : Cfg) (top : List Tree) (r base : Bytes) (t : Tree) (hr : rootOf c.pfx = some r)
    (hd : descend (splitOn slash r) [] top = some (base, t)) : BaseOK c base := by
  intro _ hp
  exfalso
  have l1 := hp.length_le
  have l2 := (rootOf_spec c.pfx r hr).2.length_le
  have l3 := congrArg List.length (descend_path _ _ _ _ _ hd)
  rw [join_splitOn] at l3
  simp at l2 l3
  omega

theorem keys_not_under_skip (g : GetObj) (skip : List Bytes) (top : List Tree) (hw : wfList top = true)
    (k s : Bytes) (hk : k ∈ keysList g skip [] top) (hs : s ∈ skip) : ¬ (s ++ [slash]) <+: k := by
  intro hp
  have hjoin : joinWith slash (splitOn slash s) = s := join_splitOn slash s
  obtain ⟨base, n, cs, hd, hkt, _⟩ := descend_complete g skip (splitOn slash s) [] k top
    (splitOn_ne_nil slash s) (splitOn_no_sep slash s) hw hk (by rw [hjoin]; simpa using hp)
  have hpath : base ++ n = s := by simpa [hjoin, Tree.name] using descend_path _ _ _ _ _ hd
  exact ((mem_keysNode_dir g skip base n k cs).1 hkt).1 (hpath ▸ hs)

theorem walk_zero (c : Cfg) (top : List Tree) (h : c.max = 0) : walk c top = .empty := if_pos h

theorem walk_toplevel (c : Cfg) (top : List Tree) (hmax : c.max ≠ 0) (hdot : insideSkip c.skip [46] = false)
    (hr : rootOf c.pfx = none ∨ rootOf c.pfx = some [46]) :
    walk c top = finish (walkList c [] (init c) top).1 := by
  unfold walk
  rw [if_neg hmax]
  rcases hr with hr | hr <;> simp [hr, hdot]

theorem root_of_key (g : GetObj) (skip : List Bytes) (top : List Tree) (hw : wfList top = true)
    (P r : Bytes) (hr : rootOf P = some r) (k : Bytes) (hk : k ∈ keysList g skip [] top) (hp : P <+: k) :
    insideSkip skip r = false ∧ (splitOn slash r).all validElem = true ∧
    ∃ base t, descend (splitOn slash r) [] top = some (base, t) ∧ k ∈ keysNode g skip base t := by
  have hrk : (r ++ [slash]) <+: k := (rootOf_spec P r hr).2.trans hp
  refine ⟨?_, ?_⟩
  · rw [← Bool.not_eq_true]
    intro hin
    unfold insideSkip at hin
    rw [List.any_eq_true] at hin
    obtain ⟨s, hs, hcond⟩ := hin
    apply keys_not_under_skip g skip top hw k s hk hs
    simp only [Bool.or_eq_true, beq_iff_eq] at hcond
    rcases hcond with e | e
    · rw [← e]; exact hrk
    · exact ((hasPrefix_iff _ _).1 e).trans ((List.prefix_append r [slash]).trans hrk)
  · obtain ⟨base, n, cs, hd, hkt, hv⟩ := descend_complete g skip (splitOn slash r) [] k top
      (splitOn_ne_nil slash r) (splitOn_no_sep slash r) hw hk
      (by rw [join_splitOn]; simpa using hrk)
    exact ⟨List.all_eq_true.2 hv, base, _, hd, hkt⟩

/-- either the node along `r` is walked, or nothing is listed and no key carries the prefix -/
theorem walk_below_cases (c : Cfg) (top : List Tree) (r : Bytes) (hmax : c.max ≠ 0)
    (hr : rootOf c.pfx = some r) (hr46 : r ≠ [46])
    (hok : ListOK c.getObj c.skip (keysList c.getObj c.skip [] top) [] top) :
    (walk c top = .empty ∧ ∀ k ∈ keysList c.getObj c.skip [] top, ¬ c.pfx <+: k) ∨
    ∃ base t, walk c top = finish (walkNode c base (init c) t).1 ∧
      NodeOK c.getObj c.skip (keysList c.getObj c.skip [] top) base t ∧ BaseOK c base ∧
      ∀ k ∈ keysList c.getObj c.skip [] top, c.pfx <+: k → k ∈ keysNode c.getObj c.skip base t := by
  have hkey := root_of_key c.getObj c.skip top hok.wf c.pfx r hr
  unfold walk
  rw [if_neg hmax, hr]
  simp only [Option.getD_some, hr46, if_false]
  by_cases hin : insideSkip c.skip r = true
  · rw [if_pos hin]
    refine Or.inl ⟨rfl, fun k hk hp => ?_⟩
    rw [(hkey k hk hp).1] at hin; cases hin
  by_cases hval : (!(splitOn slash r).all validElem) = true
  · rw [if_neg hin, if_pos hval]
    refine Or.inl ⟨rfl, fun k hk hp => ?_⟩
    rw [(hkey k hk hp).2.1] at hval; cases hval
  rw [if_neg hin, if_neg hval]
  cases hd : descend (splitOn slash r) [] top with
  | none =>
    refine Or.inl ⟨rfl, fun k hk hp => ?_⟩
    obtain ⟨_, _, hd', _⟩ := (hkey k hk hp).2.2
    rw [hd] at hd'; cases hd'
  | some bt =>
    obtain ⟨base, t⟩ := bt
    refine Or.inr ⟨base, t, rfl, ?_, root_baseOK c top r base t hr hd, fun k hk hp => ?_⟩
    · exact descend_sound _ _ _ _ [] top base t hd
        (by rw [List.nil_append, join_splitOn]; simpa using hin) hok
    · obtain ⟨_, _, hd', hk'⟩ := (hkey k hk hp).2.2
      rw [hd] at hd'
      cases hd'
      exact hk'

end Vgw.Model.Walk
