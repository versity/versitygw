/-
  Lemmas about Model.Conc: what readers see — the inode table only grows, the body answered
  is the data of one published inode, whatever a reader looks at is the key's entry of that moment
  (never older than the newest inode at the reader's start).
-/
import Vgw.Lemmas.Conc
namespace Vgw.Model.Conc

theorem reach_inodes_mono {c : Cfg} {s s' : State} (h : Reach c s s') : ∃ ext, s'.fs.inodes = s.fs.inodes ++ ext := by
  induction h with
  | refl => exact ⟨[], by simp⟩
  | step _ hs ih =>
    obtain ⟨e1, h1⟩ := ih
    obtain ⟨rq, l, a, rest, _, _, hfs, _, _⟩ := step_spec hs
    obtain ⟨e2, h2⟩ := execAct_inodes_mono c rq _ { l with prog := rest } a
    exact ⟨e1 ++ e2, by rw [hfs, h2, h1, List.append_assoc]⟩

/-- nothing is collected as body on the way; a body answered is the data of a published inode. -/
def BodyOK (fs : FS) (l : Local) : Prop :=
  l.acc.body = none ∧ ∀ r b, l.result = some (.read r) → r.body = some b → ∃ ino ∈ fs.inodes, b = ino.data

theorem answer_body {rq : Req} {fs : FS} {l : Local} {r : ReadResp} {b : Blob} (hacc : l.acc.body = none)
    (h : answer rq fs l = .read r) (hb : r.body = some b) : ∃ ino ∈ fs.inodes, b = ino.data := by
  unfold answer at h
  split at h <;> cases h
  · obtain ⟨ino, hi, rfl⟩ := Option.map_eq_some_iff.1 hb
    obtain ⟨k, _, hk⟩ := Option.bind_eq_some_iff.1 hi
    exact ⟨ino, List.mem_of_getElem? hk, rfl⟩
  · rw [hacc] at hb; cases hb

theorem BodyOK_own {c : Cfg} {fs : FS} {rq : Req} {l : Local} {a : Act} {rest : List Act} (h : BodyOK fs l) :
    BodyOK (after c rq fs l a rest).1 (after c rq fs l a rest).2 := by
  obtain ⟨ext, hext⟩ := execAct_inodes_mono c rq fs { l with prog := rest } a
  have hacc : (execAct c rq fs { l with prog := rest } a).2.acc.body = none :=
    (execAct_frame c rq fs { l with prog := rest } a).2.1.trans h.1
  refine ⟨by rw [finalize_acc]; exact hacc, fun r b hr hb => ?_⟩
  rcases after_read_result hr with h0 | h0
  · obtain ⟨ino, hi, hb⟩ := h.2 r b h0 hb
    exact ⟨ino, by rw [hext]; exact List.mem_append_left _ hi, hb⟩
  · exact answer_body hacc h0 hb

theorem BodyOK_reach {c : Cfg} {fs0 : FS} {rqs : List Req} {s : State} (h : Reach c (init c fs0 rqs) s) :
    ∀ p ∈ s.reqs, BodyOK s.fs p.2 := by
  intro p hp
  obtain ⟨i, hi⟩ := List.getElem?_of_mem hp
  refine (reach_induct (G := fun _ => True) (P := fun _ fs _ l => BodyOK fs l) ?_ (fun _ _ _ _ _ _ _ hP _ => ⟨trivial, BodyOK_own hP⟩)
    trivial ?_ h).2 i p.1 p.2 hi
  · rintro _ fs fs' _ l ⟨ext, he⟩ ⟨h1, h2⟩
    refine ⟨h1, fun r b hr hb => ?_⟩
    obtain ⟨ino, hi, hb⟩ := h2 r b hr hb
    exact ⟨ino, by rw [he]; exact List.mem_append_left _ hi, hb⟩
  · intro i rq l hi
    obtain ⟨_, rfl⟩ := init_reqs hi
    exact ⟨rfl, fun _ _ h => nomatch h⟩

/-- after a state with `n0` inodes, whatever request `i` looks at or opens is an inode of id `≥ n0 - 1`. -/
theorem views_fresh {c : Cfg} {s s' : State} {i : Nat} {rq rq' : Req} {l l' : Local} (hk : KeyLast s.fs)
    (h : Reach c s s') (hi : s.reqs[i]? = some (rq, l)) (hv : l.views = []) (hi' : s'.reqs[i]? = some (rq', l')) :
    (∀ v, some v ∈ l'.views → s.fs.inodes.length ≤ v + 1) ∧
    (∀ k, l'.fd = some k → l.fd = none → s.fs.inodes.length ≤ k + 1) := by
  refine (reach_induct (G := fun fs => KeyLast fs ∧ s.fs.inodes.length ≤ fs.inodes.length)
    (P := fun j _ _ l' => j = i → (∀ v, some v ∈ l'.views → s.fs.inodes.length ≤ v + 1) ∧
      (∀ k, l'.fd = some k → l.fd = none → s.fs.inodes.length ≤ k + 1))
    (fun _ _ _ _ _ _ hP => hP) ?_ ⟨hk, Nat.le_refl _⟩ ?_ h).2 i rq' l' hi' rfl
  · intro j fs rq1 l1 a rest g hP hp
    obtain ⟨ext, hext⟩ := execAct_inodes_mono c rq1 fs { l1 with prog := rest } a
    have hnew : ∀ v, fs.key = some v → s.fs.inodes.length ≤ v + 1 := fun v hv => by
      rw [g.1 v hv]; exact g.2
    refine ⟨⟨KeyLast_own g.1, by rw [hext, List.length_append]; exact Nat.le_trans g.2 (Nat.le_add_right ..)⟩, fun hj => ?_⟩
    obtain ⟨hviews, _, _, hfd⟩ := execAct_frame c rq1 fs { l1 with prog := rest } a
    constructor
    · intro v hv
      rw [finalize_views, hviews] at hv
      rcases List.mem_cons.1 hv with hv | hv
      · exact hnew v hv.symm
      · exact (hP hj).1 v hv
    · intro k hk hn
      rw [finalize_fd] at hk
      rcases hfd with e | ⟨_, e, _⟩ <;> rw [e] at hk
      · exact (hP hj).2 k hk hn
      · exact hnew k hk
  · rintro j rq1 l1 hj rfl
    rw [hi] at hj; cases hj
    exact ⟨fun v h => (by rw [hv] at h; cases h), fun k h1 h2 => (by rw [h2] at h1; cases h1)⟩

end Vgw.Model.Conc
