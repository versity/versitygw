/-
  Single handlers of `handle` and the loops they run, each by one step or by its successful outcome.
-/
import Vgw.Lemmas.GwStep
namespace Vgw.Model.Gw
open Vgw

variable {cfg : Cfg} {s : State} {w : Who} {now : Int} {b : Bytes}

theorem listBucketsLoop_cons (w : Who) (pfx token : Bytes) (max : Nat) (bk : Bucket) (rest : List Bucket)
    (acc : List Bytes) :
    listBucketsLoop w pfx token max (bk :: rest) acc = listBucketsLoop w pfx token max rest acc ∨
    (acc.length = max ∧ listBucketsLoop w pfx token max (bk :: rest) acc = (acc, acc.getLast?.getD [])) ∨
    (acc.length ≠ max ∧ pfx.isPrefixOf bk.name = true ∧ ((w.role == .admin) = true ∨ bk.acl.owner = w.access) ∧
      listBucketsLoop w pfx token max (bk :: rest) acc = listBucketsLoop w pfx token max rest (acc ++ [bk.name])) := by
  rw [listBucketsLoop]
  cases hpfx : pfx.isPrefixOf bk.name
  · exact Or.inl rfl
  cases hfull : acc.length == max
  case true => exact Or.inr (Or.inl ⟨by simpa using hfull, rfl⟩)
  cases hlt : bytesLt token bk.name
  · exact Or.inl rfl
  cases hown : w.role == .admin || bk.acl.owner == w.access
  · exact Or.inl rfl
  · exact Or.inr (Or.inr ⟨by simpa using hfull, rfl, by simpa using hown, rfl⟩)

theorem putObject_ok {k : Bytes} {p : PutSpec} {nv : Bytes}
    (hok : (handle cfg s w now (.putObject b k p nv)).2.code = "") :
    ∃ bk, findBucket s b = some bk ∧ verifyAccess cfg bk w .write actPutObject k = none ∧
      lockCheck bk w now true k [] = none ∧
      handle cfg s w now (.putObject b k p nv) =
        (setBucket s (bk.setVersions k (putVersions cfg bk (bk.versions k) p nv).1),
         okR [("etag", hx p.etag), ("vid", hx (putVersions cfg bk (bk.versions k) p nv).2)]
           [evt "s3:ObjectCreated:Put" b k p.data.size p.etag]) := by
  obtain ⟨bk, hb, hacc, h⟩ := gated_ok hok
  refine ⟨bk, hb, hacc, ?_, (gated_none hb hacc).trans (guarded_of_ok h)⟩
  cases hl : lockCheck bk w now true k [] with
  | none => rfl
  | some e => rw [hl] at h; exact absurd h (errR_code_ne e)

theorem reqVid_wireVid {x : Bytes} (h : x ≠ nullVid) : reqVid (wireVid x) = x := by
  cases x with
  | nil => rfl
  | cons a as => exact if_neg (show ¬(a :: as == nullVid) = true by simpa using h)

theorem putVersions_unversioned (hv : cfg.versioning = false) (bk : Bucket) (vs : List Ver) (p : PutSpec)
    (nv : Bytes) : putVersions cfg bk vs p nv = ([mkVer p []], []) := by
  simp [putVersions, hv]

theorem completeVersions_cons (cfg : Cfg) (bk : Bucket) (vs : List Ver) (p : PutSpec) (nv : Bytes) :
    ∃ v rest, (completeVersions cfg bk vs p nv).1 = mkVer p v :: rest := by
  unfold completeVersions; split <;> exact ⟨_, _, rfl⟩

theorem validateParts_cons_ok {stored : List Part} {num : Nat} {etag : Bytes} {rest : List (Nat × Bytes)} {prev : Nat}
    {chosen : List Part} (h : validateParts stored ((num, etag) :: rest) prev = .ok chosen) :
    ∃ p ps, chosen = p :: ps ∧ 1 ≤ num ∧ prev < num ∧ stored.find? (·.num == num) = some p ∧
      (rest = [] ∨ minPartSize ≤ p.data.size) ∧ p.etag = etag ∧ validateParts stored rest num = .ok ps := by
  rw [validateParts] at h
  by_cases h1 : num < 1
  · rw [if_pos h1] at h; cases h
  by_cases h2 : num ≤ prev
  · rw [if_neg h1, if_pos h2] at h; cases h
  rw [if_neg h1, if_neg h2] at h
  cases hp : stored.find? (·.num == num) with
  | none => rw [hp] at h; cases h
  | some p =>
    rw [hp] at h; dsimp only at h
    by_cases hsize : (!rest.isEmpty && decide (p.data.size < minPartSize)) = true
    · rw [if_pos hsize] at h; cases h
    by_cases hetag : (p.etag != etag) = true
    · rw [if_neg hsize, if_pos hetag] at h; cases h
    rw [if_neg hsize, if_neg hetag] at h
    cases hps : validateParts stored rest num with
    | error e => rw [hps] at h; cases h
    | ok ps =>
      rw [hps] at h; cases h
      refine ⟨p, ps, rfl, by omega, by omega, rfl, ?_, by simpa using hetag, rfl⟩
      cases rest with
      | nil => exact Or.inl rfl
      | cons _ _ => exact Or.inr (by simpa using hsize)

end Vgw.Model.Gw
