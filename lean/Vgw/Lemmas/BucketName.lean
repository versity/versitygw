/-
  `matchesNameRe` evaluated on a name given as first byte, middle and last byte: the form in which the
  regular expression `^[a-z0-9][a-z0-9.-]+[a-z0-9]$` reads a string.
-/
import Vgw.Model.BucketName
namespace Vgw.Model.BucketName
open Vgw

theorem matchesNameRe_singleton (c : UInt8) : matchesNameRe [c] = false := Bool.and_false _

theorem matchesNameRe_concat (c l : UInt8) (m : Bytes) :
    matchesNameRe (c :: (m ++ [l])) =
      (isLowerAlnum c && (isLowerAlnum l && !m.isEmpty && m.all isNameChar)) := by
  rw [matchesNameRe, List.getLast?_concat, List.dropLast_concat]

end Vgw.Model.BucketName
