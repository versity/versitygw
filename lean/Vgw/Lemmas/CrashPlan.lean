import Vgw.Lemmas.CrashView
/-
  Lemmas.CrashPlan — what the building blocks of the plans modify: `WritesIn` (names) and `AnonsIn` (descriptors)
  distribute over `++`, `if` and single steps; each generator of the model gets one description of its write set,
  valid for both metadata stores (the sidecar part guarded by `cfg.sidecar = true`).
-/
namespace Vgw.Model.Crash

/-- the paths a request on `key` may write -/
def Owned (cfg : Cfg) (key : Path) (q : Path) : Prop :=
  tmpDir cfg <+: q ∨ ["V"] <+: q ∨ ["SV"] <+: q ∨ ["S", cfg.bucket, ".sgwtmp"] <+: q ∨
  q <+: objPath cfg key ∨ q <+: sideOf (objPath cfg key) ∨ sideOf (objPath cfg key) <+: q

def WritesIn (S : Path → Prop) (l : List Step) : Prop := ∀ s ∈ l, ∀ q ∈ s.writes, S q

abbrev WritesOwned (cfg : Cfg) (key : Path) (l : List Step) : Prop := WritesIn (Owned cfg key) l

namespace WritesIn
variable {S T : Path → Prop} {a b l : List Step} {s : Step}

theorem nil (S : Path → Prop) : WritesIn S [] := fun _ hs => nomatch hs

theorem append (ha : WritesIn S a) (hb : WritesIn S b) : WritesIn S (a ++ b) :=
  fun s hs => (List.mem_append.mp hs).elim (ha s) (hb s)

theorem cons (hs : ∀ q ∈ s.writes, S q) (hl : WritesIn S l) : WritesIn S (s :: l) :=
  List.forall_mem_cons.mpr ⟨hs, hl⟩

theorem ite {c : Prop} [Decidable c] (ha : WritesIn S a) (hb : WritesIn S b) : WritesIn S (if c then a else b) := by
  split <;> assumption

theorem mono (h : WritesIn S l) (hST : ∀ q, S q → T q) : WritesIn T l :=
  fun s hs q hq => hST q (h s hs q hq)

theorem silent (h : s.writes = []) : WritesIn S [s] :=
  List.forall_mem_singleton.mpr (fun _ hq => nomatch h ▸ hq)

theorem one {p : Path} (h : s.writes = [p]) (hp : S p) : WritesIn S [s] :=
  List.forall_mem_singleton.mpr (fun _ hq => List.mem_singleton.mp (h ▸ hq) ▸ hp)

theorem ref {r : Ref} (h : s.writes = r.paths) (hr : ∀ q ∈ r.paths, S q) : WritesIn S [s] :=
  List.forall_mem_singleton.mpr (fun q hq => hr q (h ▸ hq))

theorem unlinks {es : List (Path × Node)} (h : ∀ e ∈ es, S e.1) : WritesIn S (es.map (fun e => Step.unlink e.1)) :=
  List.forall_mem_map.mpr (fun e he => List.forall_mem_singleton.mpr (h e he))

end WritesIn

theorem WritesOwned.nil (cfg : Cfg) (key : Path) : WritesOwned cfg key [] := WritesIn.nil _

theorem WritesOwned.append {cfg : Cfg} {key : Path} {a b : List Step}
    (ha : WritesOwned cfg key a) (hb : WritesOwned cfg key b) : WritesOwned cfg key (a ++ b) := WritesIn.append ha hb

theorem WritesOwned.ite {cfg : Cfg} {key : Path} {c : Prop} [Decidable c] {a b : List Step}
    (ha : WritesOwned cfg key a) (hb : WritesOwned cfg key b) : WritesOwned cfg key (if c then a else b) := WritesIn.ite ha hb

def AnonsIn (S : Nat → Prop) (l : List Step) : Prop := ∀ s ∈ l, ∀ id ∈ s.anons, S id

theorem AnonsIn.nil (S : Nat → Prop) : AnonsIn S [] := fun _ hs => nomatch hs

theorem AnonsIn.append {S : Nat → Prop} {a b : List Step} (ha : AnonsIn S a) (hb : AnonsIn S b) : AnonsIn S (a ++ b) :=
  fun s hs => (List.mem_append.mp hs).elim (ha s) (hb s)

theorem AnonsIn.ite {S : Nat → Prop} {c : Prop} [Decidable c] {a b : List Step} (ha : AnonsIn S a) (hb : AnonsIn S b) :
    AnonsIn S (if c then a else b) := by
  split <;> assumption

theorem AnonsIn.mono {S T : Nat → Prop} {l : List Step} (h : AnonsIn S l) (hST : ∀ i, S i → T i) : AnonsIn T l :=
  fun s hs i hi => hST i (h s hs i hi)

theorem AnonsIn.silent {S : Nat → Prop} {s : Step} (h : s.anons = []) : AnonsIn S [s] :=
  List.forall_mem_singleton.mpr fun _ hi => nomatch h ▸ hi

theorem AnonsIn.ref {r : Ref} {s : Step} (h : (∃ v, s = .write r v) ∨ ∃ a v, s = .setx r a v) :
    AnonsIn (fun i => r = .anon i) [s] := by
  refine List.forall_mem_singleton.mpr fun i hi => ?_
  cases r with
  | path p => rcases h with ⟨v, rfl⟩ | ⟨a, v, rfl⟩ <;> nomatch hi
  | anon id => rcases h with ⟨v, rfl⟩ | ⟨a, v, rfl⟩ <;> rw [List.mem_singleton.mp hi]

/-- `l` writes only names in `N` and goes only through descriptors in `A` -/
def Modifies (N : Path → Prop) (A : Nat → Prop) (l : List Step) : Prop := WritesIn N l ∧ AnonsIn A l

namespace Modifies
variable {N N' : Path → Prop} {A A' : Nat → Prop} {a b l : List Step} {s : Step}

theorem nil : Modifies N A [] := ⟨.nil _, .nil _⟩

theorem append (ha : Modifies N A a) (hb : Modifies N A b) : Modifies N A (a ++ b) := ⟨ha.1.append hb.1, ha.2.append hb.2⟩

theorem cons (hs : Modifies N A [s]) (hl : Modifies N A l) : Modifies N A (s :: l) := append (a := [s]) hs hl

theorem ite {c : Prop} [Decidable c] (ha : Modifies N A a) (hb : Modifies N A b) : Modifies N A (if c then a else b) := by
  split <;> assumption

theorem mono (h : Modifies N A l) (hN : ∀ q, N q → N' q) (hA : ∀ i, A i → A' i) : Modifies N' A' l :=
  ⟨h.1.mono hN, h.2.mono hA⟩

theorem named (h : Modifies N (fun _ => False) l) (hN : ∀ q, N q → N' q) : Modifies N' A l := h.mono hN fun _ => False.elim

theorem silent (hw : s.writes = []) (ha : s.anons = []) : Modifies N A [s] := ⟨.silent hw, .silent ha⟩

theorem one {p : Path} (hw : s.writes = [p]) (ha : s.anons = []) (hp : N p) : Modifies N A [s] := ⟨.one hw hp, .silent ha⟩

theorem otmp {id : Nat} {dir : Path} (h : A id) : Modifies N A [.otmp id dir] :=
  ⟨.silent rfl, List.forall_mem_singleton.mpr fun _ hi => List.mem_singleton.mp hi ▸ h⟩

theorem ref {r : Ref} (h : (∃ v, s = .write r v) ∨ ∃ a v, s = .setx r a v) (hN : ∀ q ∈ r.paths, N q)
    (hA : ∀ i, r = .anon i → A i) : Modifies N A [s] :=
  ⟨by rcases h with ⟨v, rfl⟩ | ⟨a, v, rfl⟩ <;> exact .ref rfl hN, (AnonsIn.ref h).mono hA⟩

theorem unlinks {es : List (Path × Node)} (h : ∀ e ∈ es, N e.1) : Modifies N A (es.map (fun e => Step.unlink e.1)) :=
  ⟨.unlinks h, List.forall_mem_map.mpr fun _ _ _ hi => nomatch hi⟩

end Modifies

theorem rget_run_frame (r : Ref) (l : List Step) (fs : FS) (h : Modifies (fun q => .path q ≠ r) (fun i => .anon i ≠ r) l) :
    (run l fs).rget r = fs.rget r := by
  induction l generalizing fs with
  | nil => rfl
  | cons s t ih =>
    rw [run_cons, ih _ ⟨fun x hx => h.1 x (List.mem_cons_of_mem _ hx), fun x hx => h.2 x (List.mem_cons_of_mem _ hx)⟩,
      rget_apply_frame r s fs (fun id e hi => h.2 s List.mem_cons_self id hi e.symm)
        (fun p e hq => h.1 s List.mem_cons_self p hq e.symm)]

theorem get_run_frame (p : Path) (l : List Step) (fs : FS) (h : WritesIn (· ≠ p) l) : (run l fs).get p = fs.get p :=
  rget_run_frame (.path p) l fs ⟨h.mono fun _ hq e => hq (Ref.path.inj e), fun _ _ _ _ e => nomatch e⟩

/-- `p`, what is below it, and the directories `mkdirAll p` creates above it -/
def Near (p q : Path) : Prop := (q <+: p ∧ 2 ≤ q.length) ∨ p <+: q

/-- the versioning area, and with the sidecar store its mirror -/
def VerArea (cfg : Cfg) (q : Path) : Prop := ["V"] <+: q ∨ (cfg.sidecar = true ∧ ["SV"] <+: q)

theorem VerArea.xattr {cfg : Cfg} {q : Path} (hs : cfg.sidecar = false) (h : VerArea cfg q) : ["V"] <+: q :=
  h.resolve_right fun h => Bool.false_ne_true (hs ▸ h.1)

theorem Near.head {a : String} {rest q : Path} (h : Near (a :: rest) q) : [a] <+: q := by
  rcases h with ⟨h1, h2⟩ | h
  · cases q with
    | nil => exact absurd h2 (by decide)
    | cons b t => exact List.cons_prefix_cons.mpr ⟨(List.cons_prefix_cons.mp h1).1.symm, List.nil_prefix⟩
  · exact (List.cons_prefix_cons.mpr ⟨rfl, List.nil_prefix⟩ : [a] <+: a :: rest).trans h

theorem modifies_mkdirAll (fs : FS) (p : Path) : Modifies (fun q => q <+: p ∧ 2 ≤ q.length) (fun _ => False) (mkdirAll fs p) := by
  refine ⟨fun s hs q hq => ?_, List.forall_mem_map.mpr fun _ _ _ hi => nomatch hi⟩
  simp only [mkdirAll, List.mem_map, List.mem_filter, List.mem_range, Bool.and_eq_true, decide_eq_true_eq] at hs
  obtain ⟨x, ⟨⟨i, _, rfl⟩, hlen, _⟩, rfl⟩ := hs
  rw [List.mem_singleton.mp hq]
  exact ⟨List.take_prefix i p, hlen⟩

theorem openTmp_ref (cfg : Cfg) (fs : FS) (id : Nat) (dir : Path) (fa : Bool) (name : String) :
    (openTmp cfg fs id dir fa name).1 = .anon id ∨ (openTmp cfg fs id dir fa name).1 = .path (dir ++ [name]) := by
  fun_cases openTmp cfg fs id dir fa name
  · exact Or.inl rfl
  · exact Or.inr rfl

theorem ref_openTmp (cfg : Cfg) (fs : FS) (id : Nat) (dir : Path) (fa : Bool) (name : String) :
    ∀ q ∈ (openTmp cfg fs id dir fa name).1.paths, dir <+: q := by
  intro q hq
  rcases openTmp_ref cfg fs id dir fa name with h | h <;> rw [h] at hq
  · nomatch hq
  · rw [List.mem_singleton.mp hq]; exact List.prefix_append _ _

theorem modifies_openTmp (cfg : Cfg) (fs : FS) (id : Nat) (dir : Path) (fa : Bool) (name : String) :
    Modifies (fun q => (q <+: dir ∧ 2 ≤ q.length) ∨ q ∈ (openTmp cfg fs id dir fa name).1.paths) (· = id)
      (openTmp cfg fs id dir fa name).2 := by
  fun_cases openTmp cfg fs id dir fa name
  · exact .append (.otmp rfl) (.ite (.silent rfl rfl) .nil)
  · exact .append (.append (.named (modifies_mkdirAll fs dir) fun _ => Or.inl) (.one rfl rfl (Or.inr (List.mem_singleton.mpr rfl))))
      (.ite (.silent rfl rfl) .nil)

/-- xattr store: on the reference.  Sidecar store: by name, near the attribute directory of `obj`. -/
theorem modifies_storeAttr (cfg : Cfg) (fs : FS) (r : Ref) (obj : Path) (a : String) (v : Val) :
    Modifies (fun q => q ∈ r.paths ∨ (cfg.sidecar = true ∧ Near (sideOf obj) q)) (fun i => r = .anon i)
      (storeAttr cfg fs r obj a v) := by
  fun_cases storeAttr cfg fs r obj a v
  · rename_i hs _
    have hbelow : cfg.sidecar = true ∧ Near (sideOf obj) (sideOf obj ++ [a]) := ⟨hs, Or.inr (List.prefix_append _ _)⟩
    exact .append (.append (.named (modifies_mkdirAll fs _) fun _ h => Or.inr ⟨hs, Or.inl h⟩) (.one rfl rfl (Or.inr hbelow)))
      (.ite .nil (.one rfl rfl (Or.inr hbelow)))
  · exact .ref (Or.inr ⟨_, _, rfl⟩) (fun _ => Or.inl) fun _ => id

theorem modifies_storeAttrs (cfg : Cfg) (r : Ref) (obj : Path) (kvs : List (String × Val)) (fs : FS) :
    Modifies (fun q => q ∈ r.paths ∨ (cfg.sidecar = true ∧ Near (sideOf obj) q)) (fun i => r = .anon i)
      (storeAttrs cfg fs r obj kvs) := by
  induction kvs generalizing fs with
  | nil => exact .nil
  | cons kv rest ih => exact .append (modifies_storeAttr cfg fs r obj kv.1 kv.2) (ih _)

theorem writes_deleteAttr (cfg : Cfg) (fs : FS) (obj : Path) (a : String) :
    WritesIn (fun q => q = obj ∨ sideOf obj <+: q) (deleteAttr cfg fs obj a) := by
  fun_cases deleteAttr cfg fs obj a
  · exact .one rfl (Or.inr (List.prefix_append _ _))
  · exact .nil _
  · exact .one rfl (Or.inl rfl)
  · exact .nil _

theorem prefix_of_mem_children {fs : FS} {p : Path} {e : Path × Node} (h : e ∈ fs.children p) : p <+: e.1 := by
  simp only [FS.children, List.mem_filter, Bool.and_eq_true] at h
  exact List.isPrefixOf_iff_prefix.mp h.2.2

theorem deleteAttrs_xattr (cfg : Cfg) (hs : cfg.sidecar = false) (fs : FS) (obj : Path) : deleteAttrs cfg fs obj = [] := by
  simp [deleteAttrs, hs]

theorem modifies_deleteAttrs (cfg : Cfg) (fs : FS) (obj : Path) :
    Modifies (fun q => cfg.sidecar = true ∧ sideOf obj <+: q) (fun _ => False) (deleteAttrs cfg fs obj) := by
  fun_cases deleteAttrs cfg fs obj
  · rename_i hs _ _
    exact .append (.unlinks fun _ he => ⟨hs, prefix_of_mem_children he⟩) (.one rfl rfl ⟨hs, List.prefix_refl _⟩)
  · exact .nil
  · exact .nil

/-- the last step(s) of `publish` and `publishR`: `linkat` of the unnamed inode, or `fchmod` + `rename` -/
def finalSteps (r : Ref) (obj : Path) : List Step :=
  match r with
  | .anon id => [.link id obj]
  | .path t => [.chmod (.path t), .rename t obj]

theorem publish_eq (fs : FS) (r : Ref) (obj : Path) :
    publish fs r obj = rmAt fs obj ++ mkdirAll (run (rmAt fs obj) fs) obj.dropLast ++ finalSteps r obj := rfl

theorem modifies_final (r : Ref) (obj : Path) : Modifies (fun q => q = obj ∨ q ∈ r.paths) (fun _ => False) (finalSteps r obj) := by
  cases r with
  | anon id => exact .one rfl rfl (Or.inl rfl)
  | path t =>
    refine .cons (.silent rfl rfl) ⟨.cons (fun q hq => ?_) (.nil _), .silent rfl⟩
    rcases List.mem_cons.mp hq with h | h
    · exact Or.inr (h ▸ List.mem_singleton.mpr rfl)
    · exact Or.inl (List.mem_singleton.mp h)

theorem modifies_publish (fs : FS) (r : Ref) (obj : Path) :
    Modifies (fun q => q = obj ∨ (q <+: obj ∧ 2 ≤ q.length) ∨ q ∈ r.paths) (fun _ => False) (publish fs r obj) := by
  rw [publish_eq]
  refine .append (.append ?_ (.named (modifies_mkdirAll _ _) fun q h => Or.inr (Or.inl ⟨h.1.trans (List.dropLast_prefix obj), h.2⟩)))
    (.named (modifies_final r obj) fun q h => h.imp_right Or.inr)
  fun_cases rmAt fs obj
  · exact .one rfl rfl (Or.inl rfl)
  · exact .one rfl rfl (Or.inl rfl)
  · exact .nil

theorem modifies_publishR (fs : FS) (r : Ref) (obj tdir : Path) (name : String) :
    Modifies (fun q => q = obj ∨ (q <+: obj ∧ 2 ≤ q.length) ∨ q ∈ r.paths ∨ q = tdir ++ [name]) (fun _ => False)
      (publishR fs r obj tdir name) := by
  unfold publishR
  refine .append (.append (.named (modifies_mkdirAll _ _) fun q h => Or.inr (Or.inl ⟨h.1.trans (List.dropLast_prefix obj), h.2⟩)) ?_) ?_
  · fun_cases rmDirAt fs obj
    · exact .one rfl rfl (Or.inl rfl)
    · exact .nil
  · cases r with
    | path t => exact .named (modifies_final (.path t) obj) fun q h => h.imp_right fun h => Or.inr (Or.inl h)
    | anon id =>
      refine .ite (.cons (.one rfl rfl (Or.inr (Or.inr (Or.inr rfl)))) ⟨.cons (fun q hq => ?_) (.nil _), .silent rfl⟩)
        (.one rfl rfl (Or.inl rfl))
      rcases List.mem_cons.mp hq with h | h
      · exact Or.inr (Or.inr (Or.inr h))
      · exact Or.inl (List.mem_singleton.mp h)

theorem modifies_publishC (cfg : Cfg) (fs : FS) (r : Ref) (obj tdir : Path) (name : String) :
    Modifies (fun q => q = obj ∨ (q <+: obj ∧ 2 ≤ q.length) ∨ q ∈ r.paths ∨ q = tdir ++ [name]) (fun _ => False)
      (publishC cfg fs r obj tdir name) := by
  fun_cases publishC cfg fs r obj tdir name
  · exact modifies_publishR fs r obj tdir name
  · exact .named (modifies_publish fs r obj) fun q h => h.imp_right fun h => h.imp_right Or.inl

theorem sideOf_V (rest : Path) : sideOf ("V" :: rest) = "SV" :: (rest ++ ["meta"]) := rfl

theorem ver_archive (cfg : Cfg) (rq : Req) (fs : FS) (key : Path) : Modifies (VerArea cfg) (· = 1) (archive cfg rq fs key) := by
  fun_cases archive cfg rq fs key
  · have hV : ∀ {rest q : Path}, Near ("V" :: rest) q → VerArea cfg q := fun h => Or.inl h.head
    have hr : ∀ fa name, ∀ q ∈ (openTmp cfg fs 1 (verBucket cfg ++ [".sgwtmp"]) fa name).1.paths, VerArea cfg q :=
      fun fa name q h => hV (Or.inr (ref_openTmp cfg fs 1 _ fa name q h))
    have hi : ∀ fa name i, (openTmp cfg fs 1 (verBucket cfg ++ [".sgwtmp"]) fa name).1 = .anon i → i = 1 := by
      intro fa name i hi
      rcases openTmp_ref cfg fs 1 (verBucket cfg ++ [".sgwtmp"]) fa name with h | h <;> rw [h] at hi
      · exact (Ref.anon.inj hi).symm
      · nomatch hi
    refine .append (.append (.append (.append ?_ (.ref (Or.inl ⟨_, rfl⟩) (hr _ _) (hi _ _))) ?_) ?_) ?_
    · exact (modifies_openTmp cfg fs 1 _ _ _).mono (fun q h => h.elim (fun h => hV (Or.inl h)) (hr _ _ q)) fun _ => id
    · exact .named (modifies_mkdirAll _ _) fun q h => hV (Or.inl h)
    · exact (modifies_storeAttrs cfg _ _ _ _).mono
        (fun q h => h.elim (hr _ _ q) fun ⟨hs, h⟩ => Or.inr ⟨hs, Near.head (sideOf_V _ ▸ h)⟩) (hi _ _)
    · refine .named (modifies_publishC cfg _ _ _ _ _) fun q h => ?_
      rcases h with h | h | h | h
      · exact h ▸ hV (Or.inr (List.prefix_refl _))
      · exact hV (Or.inl h)
      · exact hr _ _ q h
      · exact h ▸ hV (Or.inr (List.prefix_refl _))
  · exact .nil

theorem ver_deleteNullVersion (cfg : Cfg) (fs : FS) (key : Path) :
    Modifies (VerArea cfg) (fun _ => False) (deleteNullVersion cfg fs key) := by
  unfold deleteNullVersion
  exact .ite (.append (.one rfl rfl (Or.inl ⟨_, rfl⟩))
    (.named (modifies_deleteAttrs cfg fs _) fun q ⟨hs, h⟩ => Or.inr ⟨hs, Near.head (sideOf_V _ ▸ Or.inr h)⟩)) .nil

end Vgw.Model.Crash
