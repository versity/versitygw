/-
  A lookup invoked when no change of its key is in flight — every such change has been
  acknowledged — answers what the store says, whatever else is running, whatever the clock shows.
-/
import Vgw.Lemmas.IAMCInv
import Vgw.Lemmas.IAMProgress
namespace Vgw.Model.IAM
open Vgw
open Vgw.Model.Gw (Account Role)

/-- no change of key k is in flight -/
def NoMut (σ : State) (k : Bytes) : Prop :=
  ∀ (j : Nat) (c : Call), σ.calls[j]? = some c → c.op.isMut = true → c.op.key = k → isDone c.pc = true

theorem coh_of_inv {v : Variant} {cfg : Cfg} {σ : State} {k : Bytes} (h : Inv v cfg σ) (hN : NoMut σ k) :
    Coh cfg σ.committed σ.items k := by
  -- a call that owes the cache its step is a change that has not returned
  have hnp : ¬ Pending σ.calls k := fun ⟨j, c, hj, hp, hk⟩ => by
    obtain ⟨r, hr⟩ := isDone_iff.mp (hN j c hj ((h.typ j c hj).1 (Or.inr hp)).1 hk)
    rw [hr] at hp; cases hp
  have hc := h.cache
  unfold CInv at hc
  split at hc
  · split at hc
    · intro e he hek
      rcases hc.ent e he with h1 | h1
      · rw [← hek]; exact h1
      · rw [hek] at h1; exact absurd h1 hnp
    · exact hc.coh k hnp
  · intro e he; rw [hc.empty] at he; cases he

def resOf : Option Account → Res
  | some a => .acct a
  | none => .noSuchUser

/-- what a new lookup of k holds in its hands, given that the store answers `val` for k -/
def NewPc (val : Option Account) : PC → Prop
  | .gFetched a _ => val = some a
  | .done r => r = resOf val
  | _ => True

/-- invariant of the rest of the schedule: `n0` is the number of calls at a moment when no change of
`k` was in flight; the lookups of `k` with index ≥ `n0` are the ones invoked since -/
structure After (v : Variant) (cfg : Cfg) (k : Bytes) (val : Option Account) (n0 : Nat) (σ : State) : Prop where
  inv : Inv v cfg σ
  nomut : NoMut σ k
  hval : look cfg σ.committed k = val
  newok : ∀ (i : Nat) (c : Call), σ.calls[i]? = some c → n0 ≤ i → c.op = .get k → NewPc val c.pc

theorem NewPc.step {v : Variant} {cfg : Cfg} {σ σ₁ : State} {k : Bytes} {val : Option Account} {i : Nat} {pc pc' : PC}
    (hI : Inv v cfg σ) (hN : NoMut σ k) (hval : look cfg σ.committed k = val)
    (hi : σ.calls[i]? = some ⟨.get k, pc⟩) (hnew : NewPc val pc) (hs : Step v cfg σ i (.get k) pc σ₁ pc') :
    NewPc val pc' := by
  have hL := (hI.wf.l.calls i _ hi).pc
  have hT := hI.typ i _ hi
  cases hs
  case hit k' a hop _ hget =>
    cases hop
    obtain ⟨e, he, hek, hev⟩ := Items.get_some hget
    have := coh_of_inv hI hN e he hek
    rw [hval, hev] at this
    exact this ▸ rfl
  case rootFetched hr => exact hval.symm.trans (look_root cfg _ hr)
  case getNone => exact (hval.symm.trans hL.look_gGot) ▸ rfl
  case getSome => exact hval.symm.trans hL.look_gGot
  case store | drop => exact hnew ▸ rfl
  -- the other steps that return are not steps of a lookup
  case refuse hop _ => cases hop
  case unlockFailed => cases (hT.1 (.inl rfl)).1
  case cache => cases (hT.1 (.inr rfl)).1
  case listDone => cases hT.2.1 rfl
  all_goals trivial

theorem After.stepAt {v : Variant} {cfg : Cfg} {k : Bytes} {val : Option Account} {n0 : Nat} {σ : State}
    (h : After v cfg k val n0 σ) (i : Nat) (hq : NeedsQuiet v → QuietStep v σ (.step i)) :
    After v cfg k val n0 (stepAt v cfg σ i) := by
  have hinv' : Inv v cfg (Model.IAM.stepAt v cfg σ i) := h.inv.act (.step i) hq
  revert hinv'
  refine stepAt_ind (P := fun σ' => Inv v cfg σ' → After v cfg k val n0 σ') (fun _ => h) fun {op pc σ₁ pc'} hi hs hinv' => ?_
  -- a call that still moves is not a change of k
  have hnk : op.isMut = true → op.key ≠ k := fun hm hk => by
    obtain ⟨r, rfl⟩ := isDone_iff.mp (h.nomut i _ hi hm hk)
    cases hs
  refine ⟨hinv', forall_setCall hs.calls (fun hm hk => absurd hk (hnk hm)) fun j cj _ => h.nomut j cj, ?_,
    forall_setCall hs.calls (fun hn hop => ?_) fun j cj _ => h.newok j cj⟩
  · rcases hs.committed with he | rfl
    · exact he ▸ h.hval
    · have hm := ((h.inv.typ i _ hi).1 (.inl rfl)).1
      exact (look_mutate cfg (h.inv.wf.l.calls i _ hi).pc.1 fun e => hnk hm e.symm).trans h.hval
  · cases hop
    exact NewPc.step h.inv h.nomut h.hval hi (h.newok i _ hi hn rfl) hs

theorem After.act {v : Variant} {cfg : Cfg} {k : Bytes} {val : Option Account} {n0 : Nat} {σ : State}
    (h : After v cfg k val n0 σ) (a : Act) (hq : NeedsQuiet v → QuietStep v σ a)
    (hnm : ∀ op, a = .invoke op → op.isMut = true → op.key ≠ k) :
    After v cfg k val n0 (act v cfg σ a) := by
  cases a with
  | step i => exact h.stepAt i hq
  | tick n => exact ⟨h.inv.act _ hq, h.nomut, h.hval, h.newok⟩
  | gc => exact ⟨h.inv.act _ hq, h.nomut, h.hval, h.newok⟩
  | invoke op =>
    exact ⟨h.inv.act _ hq, forall_invoke (fun hm hk => absurd hk (hnm op rfl hm)) h.nomut, h.hval,
      forall_invoke (fun _ _ => trivial) h.newok⟩

theorem After.run {v : Variant} {cfg : Cfg} {k : Bytes} {val : Option Account} {n0 : Nat} {σ : State}
    (h : After v cfg k val n0 σ) (acts : List Act) (hq : NeedsQuiet v → QuietRun v cfg σ acts)
    (hnm : ∀ op, Act.invoke op ∈ acts → op.isMut = true → op.key ≠ k) :
    After v cfg k val n0 (run v cfg σ acts) :=
  run_induction_quiet acts hq h fun _ a ha hq h => h.act a hq fun op e => hnm op (e ▸ ha)

theorem After.start {v : Variant} {cfg : Cfg} {k : Bytes} {σ : State} (hI : Inv v cfg σ) (hN : NoMut σ k) :
    After v cfg k (look cfg σ.committed k) σ.calls.length σ :=
  ⟨hI, hN, rfl, fun _ _ hi hn _ => absurd (lt_of_getElem? hi) (Nat.not_lt.mpr hn)⟩

end Vgw.Model.IAM
