import Vgw.Lemmas.CrashOthers
/-
  Lemmas.CrashAtomic — the requests with one commit point (xattr store): at most one step of the plan writes
  something the key's view reads.  The preparations write beside the object (`Aside`), which the view of a
  well-formed key does not read; the publication has one step that does.
-/
namespace Vgw.Model.Crash

/-- paths beside the object: temp area, versioning area, proper ancestors of the object -/
def Aside (cfg : Cfg) (key : Path) (q : Path) : Prop :=
  tmpDir cfg <+: q ∨ ["V"] <+: q ∨ (q <+: objPath cfg key ∧ q ≠ objPath cfg key)

/-- a well-formed file key: not empty, not below `.sgwtmp` -/
def KeyOK (key : Path) : Prop := key ≠ [] ∧ key.head? ≠ some ".sgwtmp"

theorem aside_not_read {cfg : Cfg} {key q : Path} (h : Aside cfg key q) (hk : KeyOK key) : reads cfg key q = false := by
  rcases h with h | h | ⟨h, hne⟩
  · exact not_read_tmp hk.2 (Or.inl h)
  · exact not_read_of_head h (by decide) (by decide)
  · rw [objPath_eq] at h hne
    exact reads_eq_false hne fun hs => absurd (List.cons_prefix_cons.mp (hs.trans h)).1 (by decide)

theorem silent_of_aside {cfg : Cfg} {key : Path} {l : List Step} (h : WritesIn (Aside cfg key) l) (hk : KeyOK key) :
    ∀ s ∈ l, s.silent (reads cfg key) = true :=
  fun s hs => Step.silent_iff.mpr fun q hq => aside_not_read (h s hs q hq) hk

theorem countP_zero_of_silent {P : Path → Bool} {l : List Step} (h : ∀ s ∈ l, s.silent P = true) :
    l.countP (fun s => !s.silent P) = 0 := by
  rw [List.countP_eq_zero]
  intro s hs; simp [h s hs]

theorem aside_tmp {cfg : Cfg} {key q : Path} (h : tmpDir cfg <+: q) : Aside cfg key q := Or.inl h
theorem aside_V {cfg : Cfg} {key q : Path} (h : ["V"] <+: q) : Aside cfg key q := Or.inr (Or.inl h)

theorem aside_above {cfg : Cfg} {key q : Path} (h : q <+: objPath cfg key) (hl : q.length < (objPath cfg key).length) :
    Aside cfg key q :=
  Or.inr (Or.inr ⟨h, fun he => Nat.lt_irrefl _ (he ▸ hl)⟩)

theorem aside_above_obj {cfg : Cfg} {key q : Path} (h : q <+: (objPath cfg key).dropLast) : Aside cfg key q :=
  aside_above (h.trans (List.dropLast_prefix _))
    (Nat.lt_of_le_of_lt h.length_le (by rw [List.length_dropLast]; exact Nat.sub_one_lt (by simp [objPath_eq])))

theorem aside_near_V {cfg : Cfg} {key q rest : Path}
    (h : (q <+: "V" :: rest ∧ 2 ≤ q.length) ∨ "V" :: rest <+: q) : Aside cfg key q :=
  aside_V (Near.head h)

theorem Prep.aside {cfg : Cfg} {key q : Path} (hs : cfg.sidecar = false) (hk : key ≠ []) (h : Prep cfg key q) : Aside cfg key q := by
  rcases h with h | h | h | h | ⟨hs', _⟩
  · exact aside_tmp h
  · refine aside_above (h.trans (List.prefix_append _ _)) (Nat.lt_of_le_of_lt h.length_le ?_)
    simpa [objPath, bucketPath] using List.length_pos_iff.mpr hk
  · exact aside_above_obj h
  · exact aside_V (h.xattr hs)
  · simp [hs] at hs'

theorem writes_deleteNullVersion (cfg : Cfg) (hs : cfg.sidecar = false) (key : Path) (fs : FS) :
    WritesIn (fun q => ["V"] <+: q) (deleteNullVersion cfg fs key) :=
  (ver_deleteNullVersion cfg fs key).1.mono fun _ => VerArea.xattr hs

theorem aside_preComplete (cfg : Cfg) (hs : cfg.sidecar = false) (rq : Req) (hk : KeyOK rq.key) (fs : FS) :
    WritesIn (Aside cfg rq.key) (preComplete cfg rq fs) :=
  (prep_preComplete cfg rq fs).mono fun _ h => (h.prep (ref_openTmp cfg fs 0 _ _ _)).aside hs hk.1

section
variable (cfg : Cfg) (hs : cfg.sidecar = false) (rq : Req)
include hs

theorem aside_prePut (key : Path) (hk : KeyOK key) (fs : FS) (sp : PutSpec) : WritesIn (Aside cfg key) (prePut cfg rq fs key sp) :=
  (prep_prePut cfg rq key fs sp).mono fun _ h => (h.prep (ref_openTmp cfg fs 0 _ _ _)).aside hs hk.1

theorem silent_of_prep {key : Path} (hk : KeyOK key) {l : List Step} (h : WritesIn (Prep cfg key) l) :
    ∀ s ∈ l, s.silent (reads cfg key) = true :=
  silent_of_aside (h.mono fun _ h => h.aside hs hk.1) hk

end

theorem publish_absent (fs : FS) (r : Ref) (obj : Path) (h : fs.get obj = none) :
    publish fs r obj = mkdirAll fs obj.dropLast ++ finalSteps r obj := by
  have hrm : rmAt fs obj = [] := by simp [rmAt, h]
  rw [publish_eq, hrm]
  rfl

theorem rmDirAt_of_not_dir {fs : FS} {obj : Path} (h : fs.isDir obj = false) : rmDirAt fs obj = [] := by
  unfold rmDirAt
  unfold FS.isDir at h
  split <;> simp_all

theorem countP_final (cfg : Cfg) (key : Path) (r : Ref) :
    (finalSteps r (objPath cfg key)).countP (fun s => !s.silent (reads cfg key)) ≤ 1 := by
  cases r with
  | anon id => exact List.countP_le_length
  | path t =>
    show List.countP _ [Step.chmod (Ref.path t), Step.rename t (objPath cfg key)] ≤ 1
    rw [List.countP_cons_of_neg (by simp [Step.silent, Step.writes])]
    exact List.countP_le_length

/-- With docs/C11-fix-1.diff (`atomicReplace`) the publication has one non-silent step also when an object is there:
    the new inode gets a name below the temp directory, then ONE rename replaces the object. -/
theorem countP_publishC (cfg : Cfg) (key : Path) (hk : KeyOK key) (fs : FS) (r : Ref) (tdir : Path) (name : String)
    (htd : tmpDir cfg <+: tdir) (hnd : fs.isDir (objPath cfg key) = false)
    (h : fs.get (objPath cfg key) = none ∨ cfg.atomicReplace = true) :
    (publishC cfg fs r (objPath cfg key) tdir name).countP (fun s => !s.silent (reads cfg key)) ≤ 1 := by
  have hmk : ∀ fs' : FS, (mkdirAll fs' (objPath cfg key).dropLast).countP (fun s => !s.silent (reads cfg key)) = 0 :=
    fun fs' => countP_zero_of_silent (silent_of_aside ((modifies_mkdirAll _ _).1.mono fun _ h => aside_above_obj h.1) hk)
  fun_cases publishC cfg fs r (objPath cfg key) tdir name
  · unfold publishR
    dsimp only
    rw [rmDirAt_of_not_dir hnd, List.append_nil, List.countP_append, hmk, Nat.zero_add]
    cases r with
    | path t => exact countP_final cfg key (.path t)
    | anon id =>
      dsimp only
      split
      · have hsil : (Step.link id (tdir ++ [name])).silent (reads cfg key) = true :=
          Step.silent_iff.mpr (List.forall_mem_singleton.mpr (aside_not_read (aside_tmp (htd.trans (List.prefix_append _ _))) hk))
        rw [List.countP_cons_of_neg (by simp [hsil])]
        exact List.countP_le_length
      · exact List.countP_le_length
  · rename_i har
    rw [publish_absent fs r _ (h.resolve_right har), List.countP_append, hmk, Nat.zero_add]
    exact countP_final cfg key r

/-- a group that is empty or written early leaves nothing behind the publication -/
theorem late_nil {α : Type} {c : Bool} {l : List α} (h : l = [] ∨ c = true) : (if c then [] else l) = [] := by
  rcases h with rfl | rfl
  · cases c <;> rfl
  · rfl

theorem get_of_silent (cfg : Cfg) (key : Path) (l : List Step) (fs : FS) (h : ∀ s ∈ l, s.silent (reads cfg key) = true) :
    (run l fs).get (objPath cfg key) = fs.get (objPath cfg key) :=
  (get_reads cfg key).run_silent l fs h

/-- The requests with one commit point: PutObject / CopyObject / CompleteMultipartUpload onto a free name or with
    docs/C11-fix-1.diff, nothing written by name afterwards; unversioned DeleteObject; every UploadPart. -/
def OneCommit (cfg : Cfg) (rq : Req) (fs : FS) : Prop :=
  match rq.op with
  | .put => (fs.get (objPath cfg rq.key) = none ∨ cfg.atomicReplace = true) ∧
      (rq.tags = false ∨ cfg.tagsFirst = true) ∧ (rq.hold = false ∨ cfg.holdFirst = true)
  | .copy => (fs.get (objPath cfg rq.key) = none ∨ cfg.atomicReplace = true) ∧
      (readAttr cfg fs (objPath cfg rq.src) "X-Amz-Tagging" = none ∨ cfg.copyTagsFirst = true) ∧
      (rq.hold = false ∨ cfg.holdFirst = true)
  | .delete => (cfg.verDir && cfg.vstatus != .off) = false
  | .uploadPart => True
  | .complete => fs.get (objPath cfg rq.key) = none ∨ cfg.atomicReplace = true

/-- `OneCommit`, decidable; `pub`: the condition on the publication -/
def oneCommitB (pub : Bool) (cfg : Cfg) (rq : Req) (fs : FS) : Bool :=
  match rq.op with
  | .put => pub && (!rq.tags || cfg.tagsFirst) && (!rq.hold || cfg.holdFirst)
  | .copy => pub && ((readAttr cfg fs (objPath cfg rq.src) "X-Amz-Tagging").isNone || cfg.copyTagsFirst) && (!rq.hold || cfg.holdFirst)
  | .delete => !(cfg.verDir && cfg.vstatus != .off)
  | .uploadPart => true
  | .complete => pub

theorem OneCommit.of_B {pub : Bool} (cfg : Cfg) (rq : Req) {fs : FS} (hpub : pub = true → fs.get (objPath cfg rq.key) = none ∨ cfg.atomicReplace = true)
    (h : oneCommitB pub cfg rq fs = true) : OneCommit cfg rq fs := by
  unfold oneCommitB at h
  unfold OneCommit
  generalize rq.op = op at h ⊢
  cases op <;> simp only [Bool.and_eq_true, Bool.or_eq_true, Option.isNone_iff_eq_none, Bool.not_eq_eq_eq_not, Bool.not_true] at h
  · exact ⟨hpub h.1.1, h.1.2, h.2⟩
  · exact ⟨hpub h.1.1, h.1.2, h.2⟩
  · exact h
  · trivial
  · exact hpub h

section
variable (cfg : Cfg) (hs : cfg.sidecar = false) (rq : Req)
include hs

theorem countP_planPutSpec (key : Path) (hk : KeyOK key) (fs : FS) (sp : PutSpec) (hpost : sp.postAttrs = [])
    (h : fs.get (objPath cfg key) = none ∨ cfg.atomicReplace = true) :
    (planPutSpec cfg rq fs key sp).countP (fun s => !s.silent (reads cfg key)) ≤ 1 := by
  fun_cases planPutSpec cfg rq fs key sp
  -- empty plan
  case case1 => exact Nat.zero_le 1
  case case2 obj hc pre fs6 _ s8 =>
    have hpre : ∀ s ∈ pre, s.silent (reads cfg key) = true := silent_of_aside (aside_prePut cfg hs rq key hk fs sp) hk
    have hget : fs6.get obj = fs.get obj := get_of_silent cfg key _ fs hpre
    have hnd : fs.isDir (bucketPath cfg) = true ∧ fs.isDir obj = false := by simpa using hc
    have hnil : s8 = [] := by simp only [s8, hpost]; rfl
    rw [hnil, List.append_nil, List.countP_append, countP_zero_of_silent hpre, Nat.zero_add]
    exact countP_publishC cfg key hk _ _ _ _ (List.prefix_refl _) ((FS.isDir_congr hget).trans hnd.2) (h.imp_left hget.trans)

theorem countP_planComplete (hk : KeyOK rq.key) (fs : FS) (h : fs.get (objPath cfg rq.key) = none ∨ cfg.atomicReplace = true) :
    (planComplete cfg rq fs).countP (fun s => !s.silent (reads cfg rq.key)) ≤ 1 := by
  fun_cases planComplete cfg rq fs
  -- empty plans
  case case1 | case2 => exact Nat.zero_le 1
  case case3 obj mp hc _ pre fs5 _ =>
    have hpre : ∀ s ∈ pre, s.silent (reads cfg rq.key) = true := silent_of_aside (aside_preComplete cfg hs rq hk fs) hk
    have hget : fs5.get obj = fs.get obj := get_of_silent cfg rq.key _ fs hpre
    have hnd : fs.isDir mp = true ∧ fs.isDir obj = false := by simpa using hc
    rw [List.countP_append, List.countP_append, countP_zero_of_silent hpre, Nat.zero_add,
      countP_zero_of_silent (silent_of_prep cfg hs hk (prep_cleanupUpload cfg rq _)), Nat.add_zero]
    exact countP_publishC cfg rq.key hk _ _ _ _ (List.prefix_refl _) ((FS.isDir_congr hget).trans hnd.2) (h.imp_left hget.trans)

theorem countP_planDelete_unversioned (hv : (cfg.verDir && cfg.vstatus != .off) = false) (hk : KeyOK rq.key) (fs : FS) :
    (planDelete cfg rq fs).countP (fun s => !s.silent (reads cfg rq.key)) ≤ 1 := by
  fun_cases planDelete cfg rq fs
  -- empty plans
  case case1 | case5 => exact Nat.zero_le 1
  -- the versioned branches
  case case2 | case3 | case4 => exact absurd ‹(cfg.verDir && cfg.vstatus != .off) = true› (hv ▸ Bool.false_ne_true)
  -- the unversioned branch
  case case6 obj _ _ _ _ fs1 s2 _ =>
    have h2 : s2 = [] := deleteAttrs_xattr cfg hs fs1 obj
    rw [h2, List.append_nil, List.countP_append,
      countP_zero_of_silent (silent_of_prep cfg hs hk (prep_removeParents cfg rq.key _ _ _ (List.prefix_refl _)))]
    exact List.countP_le_length

theorem one_commit (hk : KeyOK rq.key) (fs : FS) (h : OneCommit cfg rq fs) :
    (plan cfg rq fs).countP (fun s => !s.silent (reads cfg rq.key)) ≤ 1 := by
  have hhold : rq.hold = false ∨ cfg.holdFirst = true → holdAttr rq = [] ∨ cfg.holdFirst = true :=
    Or.imp_left fun h => by simp [holdAttr, h]
  unfold OneCommit at h
  unfold plan
  split <;> rename_i hop <;> rw [hop] at h
  · exact countP_planPutSpec cfg hs rq rq.key hk fs _
      (List.append_eq_nil_iff.mpr ⟨late_nil (h.2.1.imp_left fun h => by simp [h]), late_nil (hhold h.2.2)⟩) h.1
  · fun_cases planCopy cfg rq fs
    -- empty plans
    case case1 | case3 => exact Nat.zero_le 1
    case case2 =>
      exact countP_planPutSpec cfg hs rq rq.key hk fs _
        (List.append_eq_nil_iff.mpr ⟨late_nil (h.2.1.imp_left fun h => by simp +zetaDelta only [h]), late_nil (hhold h.2.2)⟩) h.1
  · exact countP_planDelete_unversioned cfg hs rq h hk fs
  · exact Nat.le_trans (Nat.le_of_eq (countP_zero_of_silent (silent_of_prep cfg hs hk (prep_planUploadPart cfg rq fs)))) (Nat.zero_le 1)
  · exact countP_planComplete cfg hs rq hk fs h

end

end Vgw.Model.Crash
