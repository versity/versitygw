/-
  Lemmas about Spec.Glob.G, and the value of Model.Glob.loop from every reachable state in terms of
  G (C14) — for every pattern and every subject (the matcher tests for `*` first, as the code does
  since 4562263).
-/
import Vgw.Model.Glob
import Vgw.Spec.Glob
namespace Vgw.Lemmas.Glob
open Vgw Vgw.Spec.Glob

theorem star_eq : Model.Glob.star = star := rfl
theorem qmark_eq : Model.Glob.qmark = qmark := rfl
theorem qmark_ne_star : qmark ≠ star := by decide

theorem G_nil (s : Bytes) : G [] s = s.isEmpty := G.eq_1 s

theorem G_star_nil (p : Bytes) : G (star :: p) [] = G p [] := by
  rw [G.eq_2]; simp

theorem G_star_cons (p : Bytes) (c : UInt8) (s : Bytes) :
    G (star :: p) (c :: s) = (G p (c :: s) || G (star :: p) s) := by
  rw [G.eq_3]; simp

theorem G_star (p t : Bytes) : G (star :: p) t = (G p t || G (star :: p) (t.drop 1)) := by
  cases t with
  | nil => exact (G_star_nil p).trans (by rw [List.drop_nil, G_star_nil, Bool.or_self])
  | cons c t => exact G_star_cons p c t

theorem G_lit_nil {a : UInt8} {p : Bytes} (h : a ≠ star) : G (a :: p) [] = false := by
  rw [G.eq_2]; simp [h]

theorem G_lit_cons {a : UInt8} {p : Bytes} {c : UInt8} {s : Bytes} (h : a ≠ star) :
    G (a :: p) (c :: s) = ((a = qmark || a = c) && G p s) := by
  rw [G.eq_3]; simp [h]

theorem G_star_iff {p s : Bytes} :
    G (star :: p) s = true ↔ ∃ k, k ≤ s.length ∧ G p (s.drop k) = true := by
  induction s with
  | nil =>
    rw [G_star_nil]
    constructor
    · intro h; exact ⟨0, by simp, by simpa using h⟩
    · rintro ⟨k, _, hk⟩; simpa using hk
  | cons c s ih =>
    rw [G_star_cons, Bool.or_eq_true, ih]
    constructor
    · rintro (h | ⟨k, hk, hg⟩)
      · exact ⟨0, by simp, by simpa using h⟩
      · exact ⟨k + 1, by simp; omega, by simpa using hg⟩
    · rintro ⟨k, hk, hg⟩
      cases k with
      | zero => left; simpa using hg
      | succ k => right; exact ⟨k, by simp at hk; omega, by simpa using hg⟩

theorem G_seg {seg : Bytes} (hseg : star ∉ seg) (r : Bytes) :
    ∀ t : Bytes, G (seg ++ r) t = true → seg.length ≤ t.length ∧ G r (t.drop seg.length) = true := by
  induction seg with
  | nil => intro t h; simpa using h
  | cons a seg ih =>
    intro t h
    simp only [List.mem_cons, not_or] at hseg
    have ha : a ≠ star := fun e => hseg.1 e.symm
    cases t with
    | nil => rw [List.cons_append, G_lit_nil ha] at h; cases h
    | cons c t =>
      rw [List.cons_append, G_lit_cons ha, Bool.and_eq_true] at h
      have := ih hseg.2 t h.2
      simp only [List.length_cons, List.drop_succ_cons]
      exact ⟨by omega, this.2⟩

theorem G_star_seg {seg r t : Bytes} (hseg : star ∉ seg) (h : G (star :: (seg ++ r)) t = true) :
    ∃ k, k + seg.length ≤ t.length ∧ G r (t.drop (k + seg.length)) = true := by
  obtain ⟨k, hk, hg⟩ := G_star_iff.1 h
  obtain ⟨hl, hr⟩ := G_seg hseg r _ hg
  rw [List.length_drop] at hl
  rw [List.drop_drop] at hr
  exact ⟨k, by omega, hr⟩

theorem G_star_drop {p t : Bytes} (k : Nat) (h : G (star :: p) (t.drop k) = true) :
    G (star :: p) t = true := by
  induction k generalizing t with
  | zero => exact h
  | succ k ih =>
    cases t with
    | nil => exact h
    | cons c t => rw [G_star_cons, Bool.or_eq_true]; exact Or.inr (ih h)

/-- Leftmost commitment: whatever an earlier star could still make match, the second star matches
from here. -/
theorem G_star_absorb {seg r t : Bytes} (hseg : star ∉ seg)
    (h : G (star :: (seg ++ star :: r)) t = true) : G (star :: r) (t.drop seg.length) = true := by
  obtain ⟨k, _, hg⟩ := G_star_seg hseg h
  rw [Nat.add_comm, ← List.drop_drop] at hg
  exact G_star_drop k hg

theorem drop_of_getElem? {p : Bytes} {i : Nat} {c : UInt8} (h : p[i]? = some c) :
    p.drop i = c :: p.drop (i + 1) := by
  obtain ⟨hi, hc⟩ := List.getElem?_eq_some_iff.1 h
  rw [List.drop_eq_getElem_cons hi, hc]

theorem ne_star_of_not {p : Bytes} {pi : Nat} (hlt : pi < p.length)
    (hq : ¬(pi < p.length ∧ p[pi]? = some Model.Glob.star)) : p[pi] ≠ star :=
  fun e => hq ⟨hlt, by rw [List.getElem?_eq_getElem hlt, e, star_eq]⟩

theorem skipStars_eq {p : Bytes} {pi : Nat} (hpi : pi ≤ p.length) :
    (Model.Glob.skipStars p pi == p.length) = G (p.drop pi) [] := by
  fun_induction Model.Glob.skipStars p pi with
  | case1 pi h ih =>
    rw [ih (by omega), drop_of_getElem? h.2, star_eq, G_star_nil]
  | case2 pi h =>
    by_cases hlt : pi < p.length
    · rw [List.drop_eq_getElem_cons hlt, G_lit_nil (ne_star_of_not hlt h)]
      exact beq_false_of_ne (by omega)
    · rw [show pi = p.length by omega, List.drop_length, G_nil]
      exact beq_self_eq_true _

def accept (p : Bytes) : Option Nat → Bool
  | none => false
  | some pi => Model.Glob.skipStars p pi == p.length

/-- What backtracking can still deliver: the last star, tried from one byte after `matchIdx`. -/
def restart (p s : Bytes) : Option Nat → Nat → Bool
  | none, _ => false
  | some k, mi => G (p.drop k) (s.drop (mi + 1))

theorem restart_some (p s : Bytes) (k mi : Nat) :
    restart p s (some k) mi = G (p.drop k) (s.drop (mi + 1)) := rfl

/-- The reachable states: `starIdx` points at a star, and the pattern bytes between it and `pIdx`
are star-free and as many as the subject bytes consumed since `matchIdx`. -/
structure Reach (p : Bytes) (pi si : Nat) (st : Option Nat) (mi : Nat) : Prop where
  hpi : pi ≤ p.length
  seg : ∀ k, st = some k → p[k]? = some star ∧
          ∃ seg, p.drop (k + 1) = seg ++ p.drop pi ∧ star ∉ seg ∧ seg.length + mi = si

theorem reach_init (p : Bytes) : Reach p 0 0 none 0 :=
  ⟨Nat.zero_le _, fun _ hk => by cases hk⟩

theorem reach_after_star {p : Bytes} {k : Nat} (h : p[k]? = some star) (mi : Nat) :
    Reach p (k + 1) mi (some k) mi :=
  ⟨(List.getElem?_eq_some_iff.1 h).1, fun _ hk => by cases hk; exact ⟨h, [], rfl, by simp, by simp⟩⟩

theorem reach_lit {p : Bytes} {pi si : Nat} {st : Option Nat} {mi : Nat} (inv : Reach p pi si st mi)
    (hlt : pi < p.length) (hcs : p[pi] ≠ star) : Reach p (pi + 1) (si + 1) st mi := by
  refine ⟨hlt, fun k hk => ?_⟩
  obtain ⟨hks, seg, hseg, hns, hlen⟩ := inv.seg k hk
  refine ⟨hks, seg ++ [p[pi]], ?_, ?_, ?_⟩
  · rw [hseg, List.drop_eq_getElem_cons hlt, List.append_assoc]; rfl
  · rw [List.mem_append, List.mem_singleton]
    exact fun e => e.elim hns (fun e => hcs e.symm)
  · rw [List.length_append, List.length_singleton]; omega

theorem current_false {p s : Bytes} {pi si : Nat} (hs : si < s.length)
    (hq : ¬(pi < p.length ∧ p[pi]? = some Model.Glob.star))
    (hp : ¬(pi < p.length ∧ (p[pi]? = some Model.Glob.qmark ∨ p[pi]? = some s[si]))) :
    G (p.drop pi) (s.drop si) = false := by
  rw [List.drop_eq_getElem_cons hs]
  by_cases hlt : pi < p.length
  · have hc : p[pi]? = some p[pi] := List.getElem?_eq_getElem hlt
    have h2 : p[pi] ≠ qmark := fun e => hp ⟨hlt, Or.inl (by rw [hc, e, qmark_eq])⟩
    have h3 : p[pi] ≠ s[si] := fun e => hp ⟨hlt, Or.inr (by rw [hc, e])⟩
    rw [List.drop_eq_getElem_cons hlt, G_lit_cons (ne_star_of_not hlt hq), decide_eq_false h2,
      decide_eq_false h3]
    rfl
  · rw [List.drop_eq_nil_of_le (by omega), G_nil]; rfl

theorem loop_eq (p s : Bytes) (pi si : Nat) (st : Option Nat) (mi : Nat) (h : mi ≤ si)
    (inv : Reach p pi si st mi) :
    accept p (Model.Glob.loop p s pi si st mi h) =
      (G (p.drop pi) (s.drop si) || restart p s st mi) := by
  fun_induction Model.Glob.loop p s pi si st mi h with
  | case1 pi si st mi h hs hq ih =>
    -- new star: what the old star could still deliver, the new one delivers too
    have hc : p[pi]? = some star := hq.2
    have hd := drop_of_getElem? hc
    rw [ih (reach_after_star hc si), restart_some, hd, List.drop_eq_getElem_cons hs, G_star_cons]
    refine (Bool.or_eq_left_iff_imp.2 fun hr => ?_).symm
    cases st with
    | none => cases hr
    | some k =>
      obtain ⟨hk, seg, hseg, hns, hlen⟩ := inv.seg k rfl
      rw [restart_some, drop_of_getElem? hk, hseg, hd] at hr
      have := G_star_absorb hns hr
      rw [List.drop_drop, show mi + 1 + seg.length = si + 1 by omega] at this
      rw [this, Bool.or_true]
  | case2 pi si st mi h hs hq hp ih =>
    -- literal / `?`; the pattern byte is not `*` because the wildcard test came first
    obtain ⟨hlt, hc⟩ := hp
    have hcs := ne_star_of_not hlt hq
    have hcm : (decide (p[pi] = qmark) || decide (p[pi] = s[si])) = true := by
      rw [List.getElem?_eq_getElem hlt, Option.some.injEq, Option.some.injEq, qmark_eq] at hc
      rw [Bool.or_eq_true, decide_eq_true_eq, decide_eq_true_eq]
      exact hc
    rw [ih (reach_lit inv hlt hcs), List.drop_eq_getElem_cons hlt, List.drop_eq_getElem_cons hs,
      G_lit_cons hcs, hcm, Bool.true_and]
  | case3 pi si mi h hs hq hp k _ ih =>
    -- backtrack: one unfolding of the star at `k`
    obtain ⟨hk, _⟩ := inv.seg k rfl
    rw [ih (reach_after_star hk (mi + 1)), current_false hs hq hp, restart_some, restart_some,
      drop_of_getElem? hk, G_star (p.drop (k + 1)) (s.drop (mi + 1)), List.drop_drop, Bool.false_or]
  | case4 pi si mi h hs hq hp _ =>
    rw [current_false hs hq hp]; rfl
  | case5 pi si st mi h hs =>
    -- subject exhausted: a restart finds no subject left either
    rw [List.drop_eq_nil_of_le (Nat.le_of_not_lt hs)]
    refine (skipStars_eq inv.hpi).trans (Bool.or_eq_left_iff_imp.2 fun hr => ?_).symm
    cases st with
    | none => cases hr
    | some k =>
      obtain ⟨hk, seg, hseg, hns, hlen⟩ := inv.seg k rfl
      rw [restart_some, drop_of_getElem? hk, hseg] at hr
      obtain ⟨j, _, hg⟩ := G_star_seg hns hr
      rw [List.drop_drop, List.drop_eq_nil_of_le (as := s) (by omega)] at hg
      exact hg

end Vgw.Lemmas.Glob
