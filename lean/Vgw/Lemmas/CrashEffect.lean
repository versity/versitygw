import Vgw.Lemmas.CrashAtomic
/-
  Lemmas.CrashEffect — what a completed PutObject leaves (xattr store, either publication routine): the node
  built in the temp file — the request's body and attributes — is what the key's name holds afterwards, whatever
  the file system held before (leftovers of earlier crashes included).
-/
namespace Vgw.Model.Crash

def foldAttrs (a0 : Attrs) (kvs : List (String × Val)) : Attrs := kvs.foldl (fun a kv => aset a kv.1 kv.2) a0

theorem aget_aset_self (a : Attrs) (k : String) (v : Val) : aget (aset a k v) k = some v := by
  simp only [aget, aset, adel, List.find?_append]
  rw [find?_key_filter_out a (fun x => !(x == k)) (by simp)]
  simp

theorem aget_aset_ne (a : Attrs) {k k' : String} (v : Val) (h : k' ≠ k) : aget (aset a k v) k' = aget a k' := by
  simp only [aget, aset, adel, List.find?_append]
  rw [find?_key_filter a (fun x => !(x == k)) (by simpa using h), List.find?_cons_of_neg (by simpa using fun hh => h hh.symm)]
  simp

theorem foldAttrs_append (a0 : Attrs) (l1 l2 : List (String × Val)) : foldAttrs a0 (l1 ++ l2) = foldAttrs (foldAttrs a0 l1) l2 := by
  simp [foldAttrs, List.foldl_append]

def lastVal (l : List (String × Val)) (k : String) : Option Val :=
  (l.reverse.find? (fun e => e.1 == k)).map (·.2)

theorem aget_foldAttrs (a0 : Attrs) (l : List (String × Val)) (k : String) :
    aget (foldAttrs a0 l) k = (lastVal l k).or (aget a0 k) := by
  induction l generalizing a0 with
  | nil => simp [foldAttrs, lastVal]
  | cons kv rest ih =>
    have : foldAttrs a0 (kv :: rest) = foldAttrs (aset a0 kv.1 kv.2) rest := rfl
    rw [this, ih]
    simp only [lastVal, List.reverse_cons, List.find?_append, Option.map_or]
    by_cases hk : kv.1 = k
    · subst hk
      simp [aget_aset_self]
    · have hne : (kv.1 == k) = false := by simpa using hk
      rw [aget_aset_ne a0 kv.2 (fun hh => hk hh.symm)]
      simp [List.find?, hne]

theorem lastVal_nil (k : String) : lastVal [] k = none := rfl

theorem aget_foldAttrs_nil (l : List (String × Val)) (k : String) : aget (foldAttrs [] l) k = lastVal l k := by
  rw [aget_foldAttrs]; exact Option.or_none

theorem lastVal_append (l1 l2 : List (String × Val)) (k : String) :
    lastVal (l1 ++ l2) k = (lastVal l2 k).or (lastVal l1 k) := by
  simp [lastVal, List.reverse_append, List.find?_append, Option.map_or]

theorem lastVal_singleton_self (k : String) (v : Val) : lastVal [(k, v)] k = some v := by
  simp [lastVal]

theorem lastVal_eq_none {l : List (String × Val)} {k : String} (h : ∀ kv ∈ l, kv.1 ≠ k) : lastVal l k = none := by
  rw [lastVal, Option.map_eq_none_iff, List.find?_eq_none]
  exact fun kv hkv he => h kv (List.mem_reverse.mp hkv) (eq_of_beq he)

theorem lastVal_ite_ne (c : Bool) (name k : String) (v : Val) (h : name ≠ k) :
    lastVal (if c = true then [(name, v)] else []) k = none := by
  cases c
  · rfl
  · exact lastVal_eq_none (List.forall_mem_singleton.mpr h)

theorem lastVal_ite_self (c : Bool) (k : String) (v : Val) :
    lastVal (if c = true then [(k, v)] else []) k = if c then some v else none := by
  cases c
  · rfl
  · exact lastVal_singleton_self k v

/-- two groups that do not both bind `k` may change places -/
theorem lastVal_comm (l₁ l₂ : List (String × Val)) (k : String) (h : lastVal l₁ k = none ∨ lastVal l₂ k = none) :
    lastVal (l₁ ++ l₂) k = lastVal (l₂ ++ l₁) k := by
  rw [lastVal_append, lastVal_append]
  rcases h with h | h <;> rw [h, Option.or_none, Option.none_or]

theorem aget_foldAttrs_last (a0 : Attrs) (l1 l2 : List (String × Val)) (k : String) (v : Val) (h : ∀ kv ∈ l2, kv.1 ≠ k) :
    aget (foldAttrs a0 (l1 ++ (k, v) :: l2)) k = some v := by
  rw [aget_foldAttrs, lastVal_append, ← List.singleton_append, lastVal_append, lastVal_eq_none h, lastVal_singleton_self]
  rfl

theorem rget_storeAttrs_xattr (cfg : Cfg) (hs : cfg.sidecar = false) (r : Ref) (obj : Path) (kvs : List (String × Val))
    (fs : FS) (d : Val) (a0 : Attrs) (h : fs.rget r = some (.file d a0)) :
    (run (storeAttrs cfg fs r obj kvs) fs).rget r = some (.file d (foldAttrs a0 kvs)) := by
  induction kvs generalizing fs a0 with
  | nil => exact h
  | cons kv rest ih =>
    have hstep : storeAttr cfg fs r obj kv.1 kv.2 = [.setx r kv.1 kv.2] := by simp [storeAttr, hs]
    have h1 : (run [Step.setx r kv.1 kv.2] fs).rget r = some (.file d (aset a0 kv.1 kv.2)) := by
      simp only [run, List.foldl, apply, h, Node.withAttrs, Node.attrs]
      exact FS.rget_rput_self fs r _
    unfold storeAttrs
    rw [hstep, run_append]
    exact ih _ _ h1

theorem not_prefix_snoc (dir : Path) (name : String) : ¬ (dir ++ [name]) <+: dir := fun h => by
  have := h.length_le
  rw [List.length_append] at this
  exact Nat.not_succ_le_self _ this

theorem not_prefix_dropLast {obj : Path} (hobj : obj ≠ []) : ¬ obj <+: obj.dropLast := fun h => by
  have := h.length_le
  rw [List.length_dropLast] at this
  exact Nat.not_succ_le_self _ (Nat.succ_pred_eq_of_pos (List.length_pos_iff.mpr hobj) ▸ this)

theorem rget_run_mkdirAll (fs' fs : FS) (dir : Path) (r : Ref) (hr : ∀ p ∈ r.paths, ¬ p <+: dir) :
    (run (mkdirAll fs' dir) fs).rget r = fs.rget r :=
  rget_run_frame r _ fs (.named (modifies_mkdirAll fs' dir) fun _ h e => hr _ (e ▸ List.mem_singleton.mpr rfl) h.1)

theorem rget_fresh_write (fs : FS) (r : Ref) (fa : Bool) (data : Val) (h : fs.rget r = some (.file "" [])) :
    (run ((if fa then [Step.falloc r] else []) ++ [.write r data]) fs).rget r = some (.file data []) := by
  have : run ((if fa then [Step.falloc r] else []) ++ [.write r data]) fs = apply (.write r data) fs := by cases fa <;> rfl
  rw [this, apply_write_file _ _ _ _ _ h]
  exact FS.rget_rput_self _ r _

theorem rget_open_write (cfg : Cfg) (fs : FS) (id : Nat) (dir : Path) (fa : Bool) (name : String) (data : Val)
    (hfresh : fs.get (dir ++ [name]) = none) :
    (run ((openTmp cfg fs id dir fa name).2 ++ [.write (openTmp cfg fs id dir fa name).1 data]) fs).rget
      (openTmp cfg fs id dir fa name).1 = some (.file data []) := by
  fun_cases openTmp cfg fs id dir fa name
  · rw [List.append_assoc, run_append]
    exact rget_fresh_write _ (.anon id) fa data (FS.aget_aput_self fs id _)
  · have hmk : (run (mkdirAll fs dir) fs).get (dir ++ [name]) = none :=
      (rget_run_mkdirAll fs fs dir (.path _) fun p hp => List.mem_singleton.mp hp ▸ not_prefix_snoc dir name).trans hfresh
    rw [List.append_assoc, List.append_assoc, run_append, run_append]
    refine rget_fresh_write _ (.path _) fa data ?_
    rw [run_singleton, apply_creat_none _ _ hmk]
    exact FS.get_put_self _ _ _

theorem get_run_final (fs : FS) (r : Ref) (obj : Path) (n : Node) (hr : fs.rget r = some n)
    (habs : ∀ id, r = .anon id → fs.get obj = none) : (run (finalSteps r obj) fs).get obj = some n := by
  cases r with
  | anon id =>
    rw [finalSteps, run_singleton, apply_link_put fs id obj n hr (habs id rfl)]; exact FS.get_put_self _ _ _
  | path t =>
    rw [finalSteps, run_cons, run_singleton, apply_chmod, apply_rename_some fs t obj n hr]; exact FS.get_put_self _ _ _

section
variable (fs : FS) (r : Ref) (obj : Path) (n : Node) (hr : fs.rget r = some n) (hobj : obj ≠ [])
  (hnd : fs.isDir obj = false) (hrp : ∀ p ∈ r.paths, ¬ p <+: obj)
include hr hobj hnd hrp

theorem get_run_publish : (run (publish fs r obj) fs).get obj = some n := by
  have hrm : (run (rmAt fs obj) fs).get obj = none ∧ (run (rmAt fs obj) fs).rget r = some n := by
    fun_cases rmAt fs obj
    · rename_i d a hg
      rw [run_singleton, apply_unlink_file fs obj d a hg]
      exact ⟨FS.get_del_self fs obj, (FS.rget_del fs r obj fun p hp he => hrp p hp (he ▸ List.prefix_refl _)).trans hr⟩
    · rename_i a hg
      simp [FS.isDir, hg] at hnd
    · rename_i hg
      exact ⟨hg, hr⟩
  rw [publish_eq, run_append, run_append]
  refine get_run_final _ r obj n ?_ fun _ _ => ?_
  · exact (rget_run_mkdirAll _ _ _ r fun p hp h => hrp p hp (h.trans (List.dropLast_prefix obj))).trans hrm.2
  · exact (rget_run_mkdirAll _ _ _ (.path obj) fun p hp => by rw [List.mem_singleton.mp hp]; exact not_prefix_dropLast hobj).trans hrm.1

/-- `tdir ++ [name]` is the name the replace link takes -/
theorem get_run_publishR (tdir : Path) (name : String) (htn : ¬ (tdir ++ [name]) <+: obj)
    (hfresh : ∀ id, r = .anon id → fs.get (tdir ++ [name]) = none) :
    (run (publishR fs r obj tdir name) fs).get obj = some n := by
  fun_cases publishR fs r obj tdir name
  rename_i mk rm
  have hrm : rm = [] := rmDirAt_of_not_dir hnd
  rw [hrm, List.append_nil, run_append]
  have h3 : (run (mkdirAll fs obj.dropLast) fs).get obj = fs.get obj :=
    rget_run_mkdirAll _ _ _ (.path obj) fun p hp => by rw [List.mem_singleton.mp hp]; exact not_prefix_dropLast hobj
  have h4 : (run (mkdirAll fs obj.dropLast) fs).rget r = some n :=
    (rget_run_mkdirAll _ _ _ r fun p hp h => hrp p hp (h.trans (List.dropLast_prefix obj))).trans hr
  have h5 : (run (mkdirAll fs obj.dropLast) fs).get (tdir ++ [name]) = fs.get (tdir ++ [name]) :=
    rget_run_mkdirAll _ _ _ (.path _) fun p hp h => htn (List.mem_singleton.mp hp ▸ h.trans (List.dropLast_prefix obj))
  generalize run (mkdirAll fs obj.dropLast) fs = fsm at h3 h4 h5
  cases r with
  | path t => exact get_run_final fsm (.path t) obj n h4 fun _ h => nomatch h
  | anon id =>
    dsimp only
    split
    · -- an object is there: link next to the temp files, rename over it
      rw [run_cons, run_singleton, apply_link_put fsm id _ n h4 (h5.trans (hfresh id rfl)),
        apply_rename_some _ _ obj n (FS.get_put_self fsm _ n)]
      exact FS.get_put_self _ _ _
    · rename_i hnf
      exact get_run_final fsm (.anon id) obj n h4 fun _ _ => h3.trans (FS.get_eq_none (Bool.not_eq_true _ ▸ hnf) hnd)

end

theorem tmp_not_prefix_obj (cfg : Cfg) (key : Path) (hk : KeyOK key) (name : String) :
    ¬ (tmpDir cfg ++ [name]) <+: objPath cfg key := by
  intro h
  have h1 : tmpDir cfg <+: objPath cfg key := (List.prefix_append _ _).trans h
  rw [tmpDir_eq, objPath_eq] at h1
  have h2 : [".sgwtmp"] <+: key := (List.prefix_cons_inj cfg.bucket).mp ((List.prefix_cons_inj "R").mp h1)
  cases key with
  | nil => exact hk.1 rfl
  | cons x t => rw [List.cons_prefix_cons] at h2; exact hk.2 (by simp [h2.1])

section
variable (cfg : Cfg) (hs : cfg.sidecar = false) (rq : Req) (key : Path) (hk : KeyOK key) (fs : FS) (sp : PutSpec)
include hs hk

/-- Between the body and the attributes the preparation (archive copy, parent directories, removal of the archived
    null version) goes through other descriptors and writes in the versioning area or above the object. -/
theorem rget_run_beside (l : List Step) (fsx : FS)
    (h : Modifies (fun q => VerArea cfg q ∨ q <+: (objPath cfg key).dropLast) (· = 1) l) :
    (run l fsx).rget (openTmp cfg fs 0 (tmpDir cfg) sp.falloc rq.tmp).1
      = fsx.rget (openTmp cfg fs 0 (tmpDir cfg) sp.falloc rq.tmp).1 := by
  rcases openTmp_ref cfg fs 0 (tmpDir cfg) sp.falloc rq.tmp with ho | ho <;> rw [ho]
  · exact rget_run_frame _ l fsx (h.mono (fun _ _ e => nomatch e) fun i hi e => absurd (hi ▸ Ref.anon.inj e) (by decide))
  · refine rget_run_frame _ l fsx (h.mono (fun q hq e => ?_) fun _ _ e => nomatch e)
    rw [Ref.path.inj e] at hq
    rcases hq with hq | hq
    · exact absurd (List.cons_prefix_cons.mp (tmpDir_eq cfg ▸ hq.xattr hs)).1 (by decide)
    · exact tmp_not_prefix_obj cfg key hk rq.tmp (hq.trans (List.dropLast_prefix _))

theorem rget_prePut (hfresh : fs.get (tmpDir cfg ++ [rq.tmp]) = none) :
    (run (prePut cfg rq fs key sp) fs).rget (openTmp cfg fs 0 (tmpDir cfg) sp.falloc rq.tmp).1
      = some (.file sp.data (foldAttrs [] (sp.attrs ++
          (if cfg.verDir && cfg.vstatus == .enabled then [("version-id", rq.newVid)] else []) ++ sp.tailAttrs))) := by
  unfold prePut
  dsimp only
  rw [deleteAttrs_xattr cfg hs]
  simp only [List.append_nil, run_append, run_nil]
  have hbeside := rget_run_beside cfg hs rq key hk fs sp
  refine rget_storeAttrs_xattr cfg hs _ _ _ _ _ _ ((hbeside _ _ ?_).trans ((hbeside _ _ ?_).trans ((hbeside _ _ ?_).trans ?_)))
  · exact .ite (.named (ver_deleteNullVersion cfg _ key) fun _ => Or.inl) .nil
  · exact .named (modifies_mkdirAll _ _) fun _ h => Or.inr h.1
  · exact .ite ((ver_archive cfg rq _ key).mono (fun _ => Or.inl) fun _ => id) .nil
  · exact run_append _ _ fs ▸ rget_open_write cfg fs 0 (tmpDir cfg) sp.falloc rq.tmp sp.data hfresh

theorem get_tmpname_prePut (id : Nat) (hanon : (openTmp cfg fs 0 (tmpDir cfg) sp.falloc rq.tmp).1 = .anon id) :
    (run (prePut cfg rq fs key sp) fs).get (tmpDir cfg ++ [rq.tmp]) = fs.get (tmpDir cfg ++ [rq.tmp]) := by
  refine get_run_frame _ _ fs ((prep_prePut cfg rq key fs sp).mono fun q h he => ?_)
  rcases h with h | h | h | h | ⟨hs', _⟩
  · exact not_prefix_snoc _ _ (he ▸ h.1)
  · rw [hanon] at h; nomatch h
  · exact tmp_not_prefix_obj cfg key hk rq.tmp (he ▸ h.trans (List.dropLast_prefix _))
  · have hV := h.xattr hs
    rw [he, tmpDir_eq] at hV
    exact absurd (List.cons_prefix_cons.mp hV).1 (by decide)
  · simp [hs] at hs'

/-- After the completed PutObject / CopyObject the name holds the body with exactly the request's attributes — from
    ANY state in which the bucket exists, the name is not a directory and the temp name is fresh. -/
theorem get_planPutSpec (hb : fs.isDir (bucketPath cfg) = true) (hnd : fs.isDir (objPath cfg key) = false)
    (hfresh : fs.get (tmpDir cfg ++ [rq.tmp]) = none) :
    (run (planPutSpec cfg rq fs key sp) fs).get (objPath cfg key) = some (.file sp.data (foldAttrs [] (sp.attrs ++
      (if cfg.verDir && cfg.vstatus == .enabled then [("version-id", rq.newVid)] else []) ++ sp.tailAttrs ++ sp.postAttrs))) := by
  fun_cases planPutSpec cfg rq fs key sp
  case case1 obj hc => exact absurd hc (by simp [obj, hb, hnd])
  rw [run_append, run_append]
  have hpre := rget_prePut cfg hs rq key hk fs sp hfresh
  have hget := get_of_silent cfg key _ fs (silent_of_aside (aside_prePut cfg hs rq key hk fs sp) hk)
  have hnd' := (FS.isDir_congr hget).trans hnd
  have hobj : objPath cfg key ≠ [] := List.cons_ne_nil _ _
  have hrp : ∀ p ∈ (openTmp cfg fs 0 (tmpDir cfg) sp.falloc rq.tmp).1.paths, ¬ p <+: objPath cfg key := by
    intro p hp
    rcases openTmp_ref cfg fs 0 (tmpDir cfg) sp.falloc rq.tmp with h | h <;> rw [h] at hp
    · nomatch hp
    · rw [List.mem_singleton.mp hp]; exact tmp_not_prefix_obj cfg key hk rq.tmp
  rw [foldAttrs_append]
  refine rget_storeAttrs_xattr cfg hs (.path (objPath cfg key)) (objPath cfg key) sp.postAttrs _ _ _ ?_
  show (run (publishC cfg _ _ _ _ _) _).get _ = _
  fun_cases publishC cfg _ _ _ _ _
  · exact get_run_publishR _ _ _ _ hpre hobj hnd' hrp _ _ (tmp_not_prefix_obj cfg key hk rq.tmp)
      fun id hid => (get_tmpname_prePut cfg hs rq key hk fs sp id hid).trans hfresh
  · exact get_run_publish _ _ _ _ hpre hobj hnd' hrp

end

/-- in the order written: onto the temp file, then by name -/
def putAttrs (cfg : Cfg) (rq : Req) : List (String × Val) :=
  (putSpecOf cfg rq).attrs ++ (if cfg.verDir && cfg.vstatus == .enabled then [("version-id", rq.newVid)] else []) ++
  (putSpecOf cfg rq).tailAttrs ++ (putSpecOf cfg rq).postAttrs

theorem lastVal_putAttrs (cfg : Cfg) (rq : Req) (k : String) :
    lastVal (putAttrs cfg rq) k = (lastVal (holdAttr rq) k).or
      ((lastVal (if rq.tags then [("X-Amz-Tagging", "new")] else []) k).or
        (lastVal ((putSpecOf cfg rq).attrs ++ (if cfg.verDir && cfg.vstatus == .enabled then [("version-id", rq.newVid)] else [])) k)) := by
  have hdis : lastVal (holdAttr rq) k = none ∨ lastVal (if rq.tags then [("X-Amz-Tagging", "new")] else []) k = none := by
    by_cases hk : k = "X-Amz-Tagging"
    · left; rw [hk]; exact lastVal_ite_ne _ _ _ _ (by decide)
    · right; exact lastVal_ite_ne _ _ _ _ fun h => hk h.symm
  rw [← lastVal_append, ← lastVal_append]
  unfold putAttrs
  generalize (putSpecOf cfg rq).attrs ++ _ = pre
  simp only [putSpecOf]
  generalize holdAttr rq = hd at hdis ⊢
  generalize (if rq.tags = true then [("X-Amz-Tagging", "new")] else []) = tg at hdis ⊢
  -- only with the hold early and the tags late do the two groups change places
  cases cfg.tagsFirst <;> cases cfg.holdFirst <;>
    simp only [Bool.false_eq_true, if_true, if_false, List.append_nil, List.nil_append, List.append_assoc]
  rw [lastVal_append, lastVal_append pre, lastVal_comm _ _ k hdis]

theorem lastVal_putAttrs_etag (cfg : Cfg) (rq : Req) : lastVal (putAttrs cfg rq) "etag" = some "new" := by
  simp only [lastVal_putAttrs, putSpecOf, holdAttr, lastVal_append, lastVal_ite_ne, ne_eq, String.reduceEq, not_false_eq_true,
    Option.none_or]
  rfl

theorem lastVal_putAttrs_tags (cfg : Cfg) (rq : Req) (h : rq.tags = true) :
    lastVal (putAttrs cfg rq) "X-Amz-Tagging" = some "new" := by
  rw [lastVal_putAttrs, h, holdAttr, lastVal_ite_ne _ _ _ _ (by decide), lastVal_ite_self]
  rfl

theorem lastVal_putAttrs_hold (cfg : Cfg) (rq : Req) (h : rq.hold = true) :
    lastVal (putAttrs cfg rq) "object-legal-hold" = some "new" := by
  rw [lastVal_putAttrs, holdAttr, h, lastVal_ite_self]
  rfl

theorem get_planPut (cfg : Cfg) (hs : cfg.sidecar = false) (rq : Req) (hk : KeyOK rq.key)
    (fs : FS) (hb : fs.isDir (bucketPath cfg) = true) (hnd : fs.isDir (objPath cfg rq.key) = false)
    (hfresh : fs.get (tmpDir cfg ++ [rq.tmp]) = none) :
    (run (planPut cfg rq fs) fs).get (objPath cfg rq.key) = some (.file rq.data (foldAttrs [] (putAttrs cfg rq))) :=
  get_planPutSpec cfg hs rq rq.key hk fs (putSpecOf cfg rq) hb hnd hfresh

end Vgw.Model.Crash
