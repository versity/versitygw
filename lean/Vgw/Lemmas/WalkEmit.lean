/-
  What one callback invocation emits, as a function of the directory entry, for delimiter ""
  and "/" when no directory is an explicit object — the per-node facts behind
  `walk_refines_spec_partial`.
-/
import Vgw.Lemmas.WalkFeed
import Vgw.Lemmas.WalkTree
import Vgw.Lemmas.ListSpec
namespace Vgw.Model.Walk
open Vgw Vgw.Spec.List

/-- delimiter "" or "/", and `getObj` never answers for a directory -/
structure Hyp (c : Cfg) : Prop where
  delim : c.delim = [] ∨ c.delim = [slash]
  noDirObj : ∀ p : Bytes, c.getObj (p ++ [slash]) = none

/-- the directory whose children are being walked is not beyond the prefix by a whole path element
(otherwise it would have been rolled up into a common prefix) -/
def BaseOK (c : Cfg) (b : Bytes) : Prop := c.delim = [slash] → c.pfx <+: b → b = c.pfx

theorem suffix_no_slash (P b n : Bytes) (hb : P <+: b → b = P) (hn : slash ∉ n) (hP : P <+: b ++ n) :
    ∃ x, b ++ n = P ++ x ∧ slash ∉ x := by
  rcases List.prefix_or_prefix_of_prefix hP (List.prefix_append b n) with h | h
  · exact ⟨n, by rw [hb h], hn⟩
  · obtain ⟨n', rfl⟩ := h
    obtain ⟨x, hx⟩ := hP
    have : n = n' ++ x := by
      have : b ++ (n' ++ x) = b ++ n := by rw [← hx]; simp
      exact (List.append_cancel_left this).symm
    exact ⟨x, by rw [this]; simp, fun hm => hn (by rw [this]; simp [hm])⟩

theorem actTail_frozen (c : Cfg) (p : Bytes) (r : Ret) : actTail c (c.marker == []) p r =
    if c.marker = [] ∨ blt c.marker p = true then actBody c p r else
    if p = c.marker then .past r else .ret r := by
  rw [actTail_eq]
  by_cases hm : c.marker = []
  · simp [hm]
  · rw [beq_false_of_ne hm]
    simp only [Bool.not_false, Bool.true_and, hm, false_or, beq_iff_eq]
    rcases blt_trichotomy c.marker p with h | h | h
    · simp [h, blt_asymm _ _ h, (blt_ne _ _ h).symm]
    · simp [← h, blt_irrefl]
    · simp [h, blt_asymm _ _ h, blt_ne _ _ h]

theorem em_tail (c : Cfg) (p : Bytes) (r : Ret) : (actTail c (c.marker == []) p r).em? =
    if c.marker = [] ∨ blt c.marker p = true then (actBody c p r).em? else none := by
  rw [actTail_frozen]
  split
  · rfl
  · split <;> rfl

theorem actObj_em (c : Cfg) (k mk : Bytes) (r : Ret) :
    (actObj c k mk r).em? = (c.getObj k).map (fun m => Em.obj ⟨k, m.1, m.2⟩ mk) := by
  unfold actObj
  cases c.getObj k with
  | none => rfl
  | some m => rfl

theorem file_no_cut (c : Cfg) (h : Hyp c) (b n x : Bytes) (hn : slash ∉ n) (hb : BaseOK c b)
    (hx : b ++ n = c.pfx ++ x) : c.delim = [] ∨ cut c.delim x = none := by
  refine h.delim.imp id fun hd => ?_
  obtain ⟨x', hx', hxs⟩ := suffix_no_slash c.pfx b n (hb hd) hn ⟨x, hx.symm⟩
  rw [hd, List.append_cancel_left (hx.symm.trans hx')]
  exact cut_byte_none slash x' hxs

theorem em_file (c : Cfg) (h : Hyp c) (b n : Bytes) (hn : slash ∉ n) (hb : BaseOK c b) :
    (act0 c ⟨b ++ n, n, false, true⟩).em? =
      if (c.marker = [] ∨ blt c.marker (b ++ n) = true) ∧ c.pfx <+: b ++ n then
        (c.getObj (b ++ n)).map (fun m => Em.obj ⟨b ++ n, m.1, m.2⟩ (b ++ n))
      else none := by
  have : act0 c ⟨b ++ n, n, false, true⟩ = actTail c (c.marker == []) (b ++ n) .nil := by
    simp [act0, actAt, act]
  rw [this, em_tail]
  by_cases hP : c.pfx <+: b ++ n
  · obtain ⟨x, hx⟩ := id hP
    have hbody : (actBody c (b ++ n) .nil).em? = (c.getObj (b ++ n)).map (fun m => Em.obj ⟨b ++ n, m.1, m.2⟩ (b ++ n)) := by
      rw [← hx, actBody_append_none c x .nil (file_no_cut c h b n x hn hb hx.symm), actObj_em]
    simp only [hbody, hP, and_true]
  · rw [actBody_of_not_prefix c _ _ hP]
    simp [hP, Act.em?]

/-- pruned because the directory cannot meet the prefix -/
def prefixPruned (c : Cfg) (ps : Bytes) : Prop := ¬ c.pfx <+: ps ∧ ¬ ps <+: c.pfx

/-- rolled up into a common prefix (delimiter "/": `ps` carries the prefix and goes beyond it) -/
def rolledUp (c : Cfg) (ps : Bytes) : Prop := c.delim = [slash] ∧ c.pfx <+: ps ∧ ps ≠ c.pfx

theorem baseOK_iff_not_rolledUp (c : Cfg) (ps : Bytes) : BaseOK c ps ↔ ¬ rolledUp c ps :=
  ⟨fun hb h => h.2.2 (hb h.1 h.2.1), fun h hd hp => Classical.not_not.1 fun hne => h ⟨hd, hp, hne⟩⟩

theorem prefixPruned_cond (c : Cfg) (ps : Bytes) :
    (decide (c.pfx ≠ []) && !hasPrefix ps c.pfx && !hasPrefix c.pfx ps) = true ↔ prefixPruned c ps := by
  unfold prefixPruned
  rw [Bool.and_eq_true, prefixTest_iff, Bool.not_eq_true', ← Bool.not_eq_true, hasPrefix_iff]

theorem rolledUp_cond (c : Cfg) (h : Hyp c) (a : Bytes) :
    (decide (c.delim ≠ []) && hasPrefix (a ++ [slash]) c.pfx &&
      containsSub (trimPrefix (a ++ [slash]) c.pfx) c.delim) = true ↔ rolledUp c (a ++ [slash]) := by
  unfold rolledUp
  rcases h.delim with hd | hd
  · simp [hd]
  · constructor
    · intro hc
      simp only [Bool.and_eq_true, decide_eq_true_eq] at hc
      obtain ⟨⟨_, h2⟩, h3⟩ := hc
      have hp := (hasPrefix_iff _ _).1 h2
      refine ⟨hd, hp, ?_⟩
      intro e
      rw [e] at h3
      have : trimPrefix c.pfx c.pfx = [] := by
        have := trimPrefix_append c.pfx []
        simpa using this
      rw [this, hd] at h3
      simp [containsSub, cut] at h3
    · rintro ⟨_, hp, hne⟩
      have hpa := (List.prefix_concat_iff.1 hp).resolve_left (Ne.symm hne)
      obtain ⟨x, hx⟩ := hpa
      have e1 : hasPrefix (a ++ [slash]) c.pfx = true := (hasPrefix_iff _ _).2 hp
      have e2 : trimPrefix (a ++ [slash]) c.pfx = x ++ [slash] := by
        rw [← hx, List.append_assoc]; exact trimPrefix_append _ _
      have e3 : containsSub (x ++ [slash]) [slash] = true := by
        rw [containsSub_iff]; exact ⟨x, List.prefix_refl _⟩
      simp [hd, e1, e2, e3]

theorem actAt_skip (c : Cfg) (pm : Bool) (a n : Bytes) (ne : Bool) (hs : a ∈ c.skip) :
    actAt c pm ⟨a, n, true, ne⟩ = .ret .skipDir := by
  have hs' : (true && c.skip.contains a) = true := by simpa using hs
  unfold actAt act
  rw [if_pos hs']

theorem actAt_dir (c : Cfg) (pm : Bool) (a n : Bytes) (ne : Bool) (hs : a ∉ c.skip) :
    actAt c pm ⟨a, n, true, ne⟩ = actDir c pm a ne := by
  simp [actAt, act, hs]

theorem actDir_pruned (c : Cfg) (pm : Bool) (a : Bytes) (ne : Bool) (h1 : prefixPruned c (a ++ [slash])) :
    actDir c pm a ne = .ret .skipDir := by
  unfold actDir
  exact if_pos ((prefixPruned_cond c _).2 h1)

theorem actDir_rolled (c : Cfg) (h : Hyp c) (pm : Bool) (a : Bytes) (ne : Bool)
    (h2 : rolledUp c (a ++ [slash])) :
    actDir c pm a ne = actTail c pm (a ++ [slash]) .skipDir := by
  unfold actDir
  dsimp only
  rw [if_neg (mt (prefixPruned_cond c _).1 fun h1 => h1.1 h2.2.1), if_pos ((rolledUp_cond c h a).2 h2)]

theorem actDir_descend (c : Cfg) (h : Hyp c) (pm : Bool) (a : Bytes) (ne : Bool)
    (h1 : ¬ prefixPruned c (a ++ [slash])) (h2 : ¬ rolledUp c (a ++ [slash])) :
    actDir c pm a ne =
      if c.delim = [] then actObj c (a ++ [slash]) a .nil else
      if !ne then .ret .nil else actTail c pm (a ++ [slash]) .nil := by
  unfold actDir
  dsimp only
  rw [if_neg (mt (prefixPruned_cond c _).1 h1), if_neg (mt (rolledUp_cond c h a).1 h2)]

theorem dir_skip (c : Cfg) (a n : Bytes) (ne : Bool) (hs : a ∈ c.skip) :
    flagOf c ⟨a, n, true, ne⟩ = .skipDir ∧ (act0 c ⟨a, n, true, ne⟩).em? = none := by
  rw [← act_flag c (c.marker == []), act0, actAt_skip c _ a n ne hs]
  exact ⟨rfl, rfl⟩

theorem dir_pruned (c : Cfg) (a n : Bytes) (ne : Bool) (hs : a ∉ c.skip) (h1 : prefixPruned c (a ++ [slash])) :
    flagOf c ⟨a, n, true, ne⟩ = .skipDir ∧ (act0 c ⟨a, n, true, ne⟩).em? = none := by
  rw [← act_flag c (c.marker == []), act0, actAt_dir c _ a n ne hs, actDir_pruned c _ a ne h1]
  exact ⟨rfl, rfl⟩

theorem dir_descend (c : Cfg) (h : Hyp c) (a n : Bytes) (ne : Bool) (hs : a ∉ c.skip)
    (h1 : ¬ prefixPruned c (a ++ [slash])) (h2 : ¬ rolledUp c (a ++ [slash])) :
    flagOf c ⟨a, n, true, ne⟩ = .nil ∧ (act0 c ⟨a, n, true, ne⟩).em? = none := by
  rw [← act_flag c (c.marker == []), act0, actAt_dir c _ a n ne hs, actDir_descend c h _ a ne h1 h2]
  split
  · exact ⟨actObj_flag .., by rw [actObj_em, h.noDirObj]; rfl⟩
  · rename_i hdn
    split
    · exact ⟨rfl, rfl⟩
    · -- an empty directory: the tail of the callback on `a/`, which is the prefix itself or misses it
      refine ⟨actTail_flag .., ?_⟩
      rw [em_tail]
      have hd : c.delim = [slash] := h.delim.resolve_left hdn
      have : (actBody c (a ++ [slash]) .nil).em? = none := by
        by_cases hP : c.pfx <+: a ++ [slash]
        · have heq : c.pfx ++ [] = a ++ [slash] := by
            rw [List.append_nil]
            exact ((baseOK_iff_not_rolledUp c _).2 h2 hd hP).symm
          rw [← heq, actBody_append_none c [] .nil (Or.inr (by rw [hd]; simp [cut])), actObj_em, heq, h.noDirObj]; rfl
        · rw [actBody_of_not_prefix c _ _ hP]; rfl
      rw [this]; simp

/-- a rolled-up directory `a/ = P ++ x ++ "/"` emits its common prefix unless the marker says no -/
theorem dir_rolled (c : Cfg) (h : Hyp c) (a n : Bytes) (ne : Bool) (hs : a ∉ c.skip)
    (h2 : rolledUp c (a ++ [slash])) (x : Bytes) (hx : a = c.pfx ++ x) (hxs : slash ∉ x) :
    flagOf c ⟨a, n, true, ne⟩ = .skipDir ∧ (act0 c ⟨a, n, true, ne⟩).em? =
      if c.marker = [] ∨ (blt c.marker (a ++ [slash]) = true ∧ ¬ a <+: c.marker) then some (.cp (a ++ [slash])) else none := by
  rw [← act_flag c (c.marker == []), act0, actAt_dir c _ a n ne hs, actDir_rolled c h _ a ne h2]
  refine ⟨actTail_flag .., ?_⟩
  have hd := h2.1
  have hbody : actBody c (a ++ [slash]) .skipDir =
      if a ++ [slash] == c.marker then .past .skipDir else
      if c.marker ≠ [] && hasPrefix c.marker a then .ret .skipDir else .cp (a ++ [slash]) .skipDir := by
    have := actBody_append_some c (x ++ [slash]) x .skipDir (by rw [hd]; simp)
      (by rw [hd]; exact cut_byte_some slash x [] hxs)
    rw [hd, ← List.append_assoc, ← hx] at this
    exact this
  rw [em_tail, hbody]
  by_cases hm : c.marker = []
  · simp [hm, Act.em?]
  · by_cases hlt : blt c.marker (a ++ [slash]) = true
    · have hne : (a ++ [slash] == c.marker) = false := beq_false_of_ne (Ne.symm (blt_ne _ _ hlt))
      rw [hne]
      by_cases hpm : a <+: c.marker
      · simp [hm, hlt, hpm, (hasPrefix_iff _ _).2 hpm, Act.em?]
      · have : hasPrefix c.marker a = false := by rw [← Bool.not_eq_true, hasPrefix_iff]; exact hpm
        simp [hm, hlt, hpm, this, Act.em?]
    · simp [hm, hlt]

end Vgw.Model.Walk
