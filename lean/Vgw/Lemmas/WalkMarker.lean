/-
  Markers the server issues itself are clear of the common prefixes (delimiter "/"), in a
  well-formed order-compatible tree without directory objects: sibling order and prefix-freeness
  carry over from names to keys.
-/
import Vgw.Lemmas.WalkRoot
namespace Vgw.Model.Walk
open Vgw Vgw.Spec.List

theorem keysNode_cases (g : GetObj) (skip : List Bytes) (hnd : ∀ p : Bytes, g (p ++ [slash]) = none)
    (b k : Bytes) (t : Tree) (hk : k ∈ keysNode g skip b t) :
    (t = .file t.name ∧ k = b ++ t.name) ∨
    (∃ cs, t = .dir t.name cs ∧ k ∈ keysList g skip (b ++ t.name ++ [slash]) cs) := by
  cases t with
  | file n => exact Or.inl ⟨rfl, ((mem_keysNode_file g skip b n k).1 hk).1⟩
  | dir n cs =>
    rcases ((mem_keysNode_dir g skip b n k cs).1 hk).2 with ⟨_, h⟩ | h
    · rw [hnd] at h; cases h
    · exact Or.inr ⟨cs, rfl, h⟩

theorem ocList_pair : ∀ (ts : List Tree), wfList ts = true → ocList ts = true →
    ∀ t1 ∈ ts, ∀ t2 ∈ ts, t1.isDir = true → blt t1.name t2.name = true → badExt t1.name t2.name = false
  | [], _, _, _, h, _, _, _, _ => by simp at h
  | u :: us, hw, ho, t1, h1, t2, h2, hd, hlt => by
    have hw' := (wfList_cons u us).1 hw
    have ho' := (ocList_cons u us).1 ho
    rcases List.mem_cons.1 h1 with e1 | m1
    · rcases List.mem_cons.1 h2 with e2 | m2
      · rw [e1, e2, blt_irrefl] at hlt; cases hlt
      · rw [e1] at hd ⊢; exact ho'.2.1 hd t2 m2
    · rcases List.mem_cons.1 h2 with e2 | m2
      · have := hw'.2.1 t1 m1
        rw [e2, blt_asymm _ _ this] at hlt; cases hlt
      · exact ocList_pair us hw'.2.2 ho'.2.2 t1 m1 t2 m2 hd hlt

theorem prefix_first_elem (w nm s : Bytes) (hw : slash ∉ w) (h : w <+: s)
    (hs : s = nm ∨ (nm ++ [slash]) <+: s) : w <+: nm := by
  rcases hs with rfl | hs
  · exact h
  · rcases List.prefix_or_prefix_of_prefix h hs with h' | h'
    · rcases List.prefix_concat_iff.1 h' with e | e
      · exact absurd (by rw [e]; simp) hw
      · exact e
    · exact absurd (h'.subset (by simp)) hw

theorem keys_below_nd (g : GetObj) (skip : List Bytes) (hnd : ∀ p : Bytes, g (p ++ [slash]) = none)
    (b n k : Bytes) (ts : List Tree) (hw : wfList ts = true) (hk : k ∈ keysList g skip b ts)
    (hp : (b ++ n ++ [slash]) <+: k) (hn : slash ∉ n) :
    ∃ cs, findChild n ts = some (.dir n cs) ∧ k ∈ keysList g skip (b ++ n ++ [slash]) cs := by
  obtain ⟨cs, hf, hkn⟩ := keys_below g skip b n k ts hw hk hp hn
  refine ⟨cs, hf, ?_⟩
  rcases keysNode_cases g skip hnd b k _ hkn with ⟨h, _⟩ | ⟨cs', he, hk'⟩
  · cases h
  · cases he; exact hk'

theorem child_wf (ts : List Tree) (n : Bytes) (cs : List Tree) (hw : wfList ts = true)
    (hf : findChild n ts = some (.dir n cs)) : wfList cs = true :=
  ((wfNode_dir n cs).1 (wfList_mem ts hw _ (findChild_some ts n _ hf).1)).2

theorem child_oc (ts : List Tree) (n : Bytes) (cs : List Tree) (ho : ocList ts = true)
    (hf : findChild n ts = some (.dir n cs)) : ocList cs = true :=
  ocNode_dir n cs ▸ ocList_mem ts ho _ (findChild_some ts n _ hf).1

theorem oc_siblings (g : GetObj) (skip : List Bytes) (hnd : ∀ p : Bytes, g (p ++ [slash]) = none)
    (u b : Bytes) (ts : List Tree) (k1 k2 : Bytes) (ch : UInt8) (hs : slash ∉ u)
    (hw : wfList ts = true) (ho : ocList ts = true)
    (hk1 : k1 ∈ keysList g skip b ts) (hk2 : k2 ∈ keysList g skip b ts)
    (hp1 : (b ++ u ++ [slash]) <+: k1) (hp2 : (b ++ u ++ [ch]) <+: k2) (hch : ch ≠ slash) : ¬ ch < slash := by
  obtain ⟨cs1, hf1, _⟩ := keys_below_nd g skip hnd b u k1 ts hw hk1 hp1 hs
  obtain ⟨t2, ht2, hkt2⟩ := (mem_keysList g skip b ts k2).1 hk2
  obtain ⟨s2, rfl, hs2⟩ := keysNode_shape g skip b k2 t2 hkt2
  have hq2 : (u ++ [ch]) <+: s2 :=
    (List.prefix_append_right_inj b).1 (by simpa [List.append_assoc] using hp2)
  obtain ⟨w, hw2⟩ := prefix_first_elem (u ++ [ch]) t2.name s2
    (by simpa using ⟨hs, fun e => hch e.symm⟩) hq2 (hs2.imp And.right And.right)
  rw [List.append_assoc] at hw2
  have hbad := ocList_pair ts hw ho (.dir u cs1) (findChild_some ts _ _ hf1).1 t2 ht2 rfl
    (by rw [← hw2]; exact blt_append_right _ _ (by simp))
  rw [← hw2] at hbad
  simpa [Tree.name, badExt_append_cons] using hbad

/-- a key below `u/` and a key that continues `u` with a byte other than '/': that byte is above '/' -/
theorem oc_keys (g : GetObj) (skip : List Bytes) (hnd : ∀ p : Bytes, g (p ++ [slash]) = none) (u : Bytes) :
    ∀ (b : Bytes) (ts : List Tree) (k1 k2 : Bytes) (ch : UInt8),
    wfList ts = true → ocList ts = true →
    k1 ∈ keysList g skip b ts → k2 ∈ keysList g skip b ts →
    (b ++ u ++ [slash]) <+: k1 → (b ++ u ++ [ch]) <+: k2 → ch ≠ slash → ¬ ch < slash := by
  induction hn : u.length using Nat.strongRecOn generalizing u with
  | _ n ih =>
    intro b ts k1 k2 ch hw ho hk1 hk2 hp1 hp2 hch
    cases hc : cut [slash] u with
    | none =>
      exact oc_siblings g skip hnd u b ts k1 k2 ch (not_mem_of_cut_byte_none slash u hc) hw ho hk1 hk2 hp1 hp2 hch
    | some m =>
      -- `u = m ++ "/" ++ u'`: both keys lie below the child directory `m`
      obtain ⟨⟨u', hu⟩, _⟩ := cut_some_spec _ _ _ hc
      have hm := not_mem_of_cut_byte_some slash u m hc
      have hbm : ∀ r : Bytes, b ++ u ++ r = b ++ m ++ [slash] ++ u' ++ r := by
        intro r; rw [← hu]; simp
      rw [hbm] at hp1 hp2
      obtain ⟨cs, hf, hkc1⟩ := keys_below_nd g skip hnd b m k1 ts hw hk1
        ((List.prefix_append _ _).trans ((List.prefix_append _ _).trans hp1)) hm
      obtain ⟨cs', hf', hkc2⟩ := keys_below_nd g skip hnd b m k2 ts hw hk2
        ((List.prefix_append _ _).trans ((List.prefix_append _ _).trans hp2)) hm
      rw [hf] at hf'; cases hf'
      have hlen : u'.length < n := by
        have := congrArg List.length hu
        simp at this
        omega
      exact ih u'.length hlen u' rfl (b ++ m ++ [slash]) cs k1 k2 ch (child_wf ts m cs hw hf) (child_oc ts m cs ho hf)
        hkc1 hkc2 hp1 hp2 hch

/-- **no key is a directory on the way to another key** -/
theorem no_clash (g : GetObj) (skip : List Bytes) (hnd : ∀ p : Bytes, g (p ++ [slash]) = none) (k' k : Bytes)
    (hp : (k' ++ [slash]) <+: k) (b : Bytes) (ts : List Tree) (hw : wfList ts = true)
    (hk' : k' ∈ keysList g skip b ts) (hk : k ∈ keysList g skip b ts) : False := by
  -- by induction on how much of `k'` lies beyond the base
  induction hn : k'.length - b.length using Nat.strongRecOn generalizing b ts with
  | _ n ih =>
    obtain ⟨t, ht, hkt⟩ := (mem_keysList g skip b ts k').1 hk'
    have hns := validName_no_slash _ (wfNode_validName t (wfList_mem ts hw t ht))
    have hfind := findChild_of_mem ts t hw ht
    rcases keysNode_cases g skip hnd b _ t hkt with ⟨hfile, hke⟩ | ⟨cs', hdir, hkc⟩
    · -- `k'` is the file `t`; `k` would lie below a directory of the same name
      obtain ⟨cs, hf, _⟩ := keys_below g skip b t.name k ts hw hk (by rw [← hke]; exact hp) hns
      rw [hf, hfile] at hfind
      cases hfind
    · -- both lie below the directory `t`
      have hpre := keysList_prefix g skip cs' _ _ hkc
      obtain ⟨cs, hf, hkc2⟩ := keys_below_nd g skip hnd b t.name k ts hw hk
        (hpre.trans ((List.prefix_append _ _).trans hp)) hns
      have hcs : cs = cs' := by
        have hsame : Tree.dir t.name cs = t := Option.some.inj (hf.symm.trans hfind)
        rw [hdir] at hsame
        injection hsame
      subst hcs
      refine ih _ ?_ (b ++ t.name ++ [slash]) cs (child_wf ts _ cs hw hf) hkc hkc2 rfl
      have := hpre.length_le
      simp at this ⊢
      omega

theorem serverIssued_markerClear (top : List Tree) (g : GetObj) (skip : List Bytes) (P M : Bytes)
    (hwf : wfList top = true) (hoc : ocList top = true) (hnd : ∀ p : Bytes, g (p ++ [slash]) = none)
    (hsi : serverIssued (keysList g skip [] top) P [slash] M = true) :
    markerClear (keysList g skip [] top) P [slash] M = true := by
  rw [markerClear_iff]
  by_cases hM : M = []
  · exact Or.inl hM
  refine Or.inr (Or.inr ?_)
  -- the key `k'` whose entry name the marker is
  obtain ⟨k', hk', ⟨s', rfl⟩, hname⟩ := ((serverIssued_iff _ _ _ _).1 hsi).resolve_left hM
  rw [name_entry_append P [slash] s' (by simp)] at hname
  subst hname
  rintro k hk ⟨s, rfl⟩ x hc hpm
  rw [List.drop_left' rfl] at hc
  have hxs := not_mem_of_cut_byte_some slash s x hc
  obtain ⟨⟨t, ht⟩, _⟩ := cut_some_spec _ _ _ hc
  have hkpre : ([] ++ (P ++ x) ++ [slash]) <+: P ++ s := ⟨t, by rw [← ht]; simp [List.append_assoc]⟩
  -- the marker continues `P ++ x` by `w`
  obtain ⟨w, hw⟩ := (List.prefix_append_right_inj P).1 hpm
  cases w with
  | nil =>
    -- the marker is the key `k'` itself, and `k` lies below `k'/`
    exfalso
    have hs' : s' = x := by
      rw [List.append_nil] at hw
      cases hc' : cut [slash] s' with
      | none => rw [rn_none hc'] at hw; exact hw.symm
      | some x' => rw [rn_some hc'] at hw; exact absurd (by rw [hw]; simp) hxs
    exact no_clash g skip hnd (P ++ s') (P ++ s) (by rw [hs']; simpa using hkpre) [] top hwf hk' hk
  | cons ch w =>
    by_cases hch : ch = slash
    · -- the marker is the common prefix
      have := rn_occ [slash] s' x ⟨w, by rw [← hw, hch]; simp⟩
      rw [← this, ← List.append_assoc]
      exact ⟨ble_refl _, fun _ => rfl⟩
    · have hk'pre : ([] ++ (P ++ x) ++ [ch]) <+: P ++ s' :=
        (show ([] ++ (P ++ x) ++ [ch]) <+: P ++ rn [slash] s' from ⟨w, by rw [← hw]; simp⟩).trans
          ((List.prefix_append_right_inj P).2 (rn_prefix _ _))
      have hnlt := oc_keys g skip hnd (P ++ x) [] top (P ++ s) (P ++ s') ch hwf hoc hk hk' hkpre hk'pre hch
      have hlt : slash < ch := (UInt8.lt_or_lt_of_ne hch).resolve_left hnlt
      -- the common prefix is below the marker and does not begin it: they part at '/' < `ch`
      rw [← hw, ← List.append_assoc]
      refine ⟨ble_of_blt _ _ (by rw [blt_append_left]; simp [blt_cons_cons, hlt]), fun hp => ?_⟩
      rw [List.prefix_append_right_inj] at hp
      exact absurd (List.cons_prefix_cons.1 hp).1 (Ne.symm hch)

end Vgw.Model.Walk
