/-
  The emissions of the visible events of a (sub)tree are, as a set, exactly the entries the
  specification defines for the keys of that subtree, and their names are a sublist of the
  event paths (hence ascending under OrderCompatible).
-/
import Vgw.Lemmas.WalkEmit
namespace Vgw.Model.Walk
open Vgw Vgw.Spec.List

def toEntry : Em → Entry
  | .obj o _ => .obj o.key
  | .cp n => .cp n

def Em.name (e : Em) : Bytes := (toEntry e).name

def emsOf (c : Cfg) (evs : List Ev) : List Em := ems (evs.map (act0 c))

theorem emsOf_append (c : Cfg) (a b : List Ev) : emsOf c (a ++ b) = emsOf c a ++ emsOf c b := by
  simp [emsOf, ems, List.filterMap_append]

theorem emsOf_cons (c : Cfg) (e : Ev) (l : List Ev) : emsOf c (e :: l) = (act0 c e).em?.toList ++ emsOf c l := by
  unfold emsOf ems
  rw [List.map_cons, List.filterMap_cons]
  cases (act0 c e).em? <;> rfl

theorem emsOf_dir (c : Cfg) (b n : Bytes) (cs : List Tree) : emsOf c (visNode c b (.dir n cs)) =
    (act0 c ⟨b ++ n, n, true, cs.isEmpty⟩).em?.toList ++
      if flagOf c ⟨b ++ n, n, true, cs.isEmpty⟩ = .nil then emsOf c (visList c (b ++ n ++ [slash]) cs) else [] := by
  rw [visNode, emsOf_cons]
  split <;> rfl

/-- the marker is clear (`Spec.List.ClearOfCP`) of the common prefix `k` rolls up into, if any: the
per-key content of `Spec.List.markerClear` -/
def MC (c : Cfg) (k : Bytes) : Prop :=
  c.marker ≠ [] → c.delim ≠ [] → c.pfx <+: k → ∀ x, cut c.delim (k.drop c.pfx.length) = some x →
    (c.pfx ++ x) <+: c.marker →
      ble (c.pfx ++ x ++ c.delim) c.marker = true ∧
      ((c.pfx ++ x ++ c.delim) <+: c.marker → c.pfx ++ x ++ c.delim = c.marker)

/-- `names`: the emissions inherit their ascending order from the event paths -/
structure Good (c : Cfg) (K : List Bytes) (E : List Em) (evp : List Bytes) : Prop where
  sound : ∀ em ∈ E, ∃ k ∈ K, c.pfx <+: k ∧ after c.pfx c.delim c.marker k = true ∧
      entry c.pfx c.delim k = toEntry em ∧
      (∀ o mk, em = .obj o mk → mk = k ∧ o.key = k ∧ c.getObj k = some (o.size, o.etag))
  complete : ∀ k ∈ K, c.pfx <+: k → after c.pfx c.delim c.marker k = true →
      ∃ em ∈ E, toEntry em = entry c.pfx c.delim k
  names : (E.map Em.name).Sublist evp

theorem Good.of_no_prefix {c : Cfg} {K : List Bytes} (evp : List Bytes) (h : ∀ k ∈ K, ¬ c.pfx <+: k) :
    Good c K [] evp :=
  ⟨by simp, fun k hk hP _ => absurd hP (h k hk), by simp⟩

theorem Good.nil (c : Cfg) (evp : List Bytes) : Good c [] [] evp :=
  Good.of_no_prefix evp (by simp)

theorem Good.append {c : Cfg} {K1 K2 : List Bytes} {E1 E2 : List Em} {ev1 ev2 : List Bytes}
    (h1 : Good c K1 E1 ev1) (h2 : Good c K2 E2 ev2) : Good c (K1 ++ K2) (E1 ++ E2) (ev1 ++ ev2) := by
  refine ⟨?_, ?_, ?_⟩
  · intro em hem
    rcases List.mem_append.1 hem with h | h
    · obtain ⟨k, hk, r⟩ := h1.sound em h
      exact ⟨k, List.mem_append.2 (Or.inl hk), r⟩
    · obtain ⟨k, hk, r⟩ := h2.sound em h
      exact ⟨k, List.mem_append.2 (Or.inr hk), r⟩
  · intro k hk hp ha
    rcases List.mem_append.1 hk with h | h
    · obtain ⟨em, hem, r⟩ := h1.complete k h hp ha
      exact ⟨em, List.mem_append.2 (Or.inl hem), r⟩
    · obtain ⟨em, hem, r⟩ := h2.complete k h hp ha
      exact ⟨em, List.mem_append.2 (Or.inr hem), r⟩
  · rw [List.map_append]
    exact List.Sublist.append h1.names h2.names

theorem Good.cons_ev {c : Cfg} {K : List Bytes} {E : List Em} {evp : List Bytes} (p : Bytes)
    (h : Good c K E evp) : Good c K E (p :: evp) :=
  ⟨h.sound, h.complete, List.Sublist.cons p h.names⟩

theorem Good.map_toEntry {c : Cfg} {K : List Bytes} {E : List Em} {evp : List Bytes} (h : Good c K E evp)
    (hs : (E.map Em.name).Pairwise (fun a b => blt a b = true)) :
    E.map toEntry = entries K c.pfx c.delim c.marker := by
  refine sorted_ext _ _ (List.pairwise_map.2 (List.pairwise_map.1 hs)) (entries_sorted K _ _ _) fun x => ?_
  rw [mem_entries]
  constructor
  · intro hx
    obtain ⟨em, hem, rfl⟩ := List.mem_map.1 hx
    obtain ⟨k, hk, hp, ha, he, _⟩ := h.sound em hem
    exact ⟨k, hk, hp, ha, he⟩
  · rintro ⟨k, hk, hp, ha, rfl⟩
    obtain ⟨em, hem, he⟩ := h.complete k hk hp ha
    exact List.mem_map.2 ⟨em, hem, he⟩

theorem Good.obj {c : Cfg} {K : List Bytes} {E : List Em} {evp : List Bytes} (h : Good c K E evp)
    {o : Obj} {mk : Bytes} (hem : Em.obj o mk ∈ E) : mk = o.key ∧ c.getObj o.key = some (o.size, o.etag) := by
  obtain ⟨k, _, _, _, _, hm⟩ := h.sound _ hem
  obtain ⟨h1, h2, h3⟩ := hm o mk rfl
  exact ⟨h1.trans h2.symm, h2 ▸ h3⟩

theorem keysNode_file (g : GetObj) (skip : List Bytes) (b n : Bytes) :
    keysNode g skip b (.file n) = if (g (b ++ n)).isSome then [b ++ n] else [] := by
  simp [keysNode]

theorem keysNode_dir (g : GetObj) (skip : List Bytes) (b n : Bytes) (cs : List Tree) :
    keysNode g skip b (.dir n cs) = if (b ++ n) ∈ skip then [] else
      (if (g (b ++ n ++ [slash])).isSome then [b ++ n ++ [slash]] else []) ++ keysList g skip (b ++ n ++ [slash]) cs := by
  simp [keysNode]

theorem mem_keysNode_file (g : GetObj) (skip : List Bytes) (b n k : Bytes) :
    k ∈ keysNode g skip b (.file n) ↔ k = b ++ n ∧ (g (b ++ n)).isSome = true := by
  rw [keysNode_file]
  split <;> simp [*]

theorem mem_keysNode_dir (g : GetObj) (skip : List Bytes) (b n k : Bytes) (cs : List Tree) :
    k ∈ keysNode g skip b (.dir n cs) ↔ (b ++ n) ∉ skip ∧
      ((k = b ++ n ++ [slash] ∧ (g (b ++ n ++ [slash])).isSome = true) ∨
        k ∈ keysList g skip (b ++ n ++ [slash]) cs) := by
  rw [keysNode_dir]
  by_cases hs : b ++ n ∈ skip
  · simp [hs]
  · cases hg : (g (b ++ n ++ [slash])).isSome <;> simp [hs, hg, -List.append_assoc]

theorem keysList_cons (g : GetObj) (skip : List Bytes) (b : Bytes) (t : Tree) (ts : List Tree) :
    keysList g skip b (t :: ts) = keysNode g skip b t ++ keysList g skip b ts := by
  simp [keysList]

theorem keysList_eq_flatMap (g : GetObj) (skip : List Bytes) (b : Bytes) :
    ∀ ts : List Tree, keysList g skip b ts = ts.flatMap (keysNode g skip b)
  | [] => by simp [keysList]
  | t :: ts => by rw [keysList_cons, List.flatMap_cons, keysList_eq_flatMap g skip b ts]

theorem mem_keysList (g : GetObj) (skip : List Bytes) (b : Bytes) (ts : List Tree) (k : Bytes) :
    k ∈ keysList g skip b ts ↔ ∃ t ∈ ts, k ∈ keysNode g skip b t := by
  rw [keysList_eq_flatMap, List.mem_flatMap]

mutual
theorem keysNode_prefix (g : GetObj) (skip : List Bytes) : ∀ (t : Tree) (b k : Bytes),
    k ∈ keysNode g skip b t → (b ++ t.name) <+: k
  | .file n, b, k, h => by
    rw [((mem_keysNode_file g skip b n k).1 h).1]; exact List.prefix_refl _
  | .dir n cs, b, k, h => by
    rcases ((mem_keysNode_dir g skip b n k cs).1 h).2 with ⟨h, _⟩ | h
    · rw [h]; exact ⟨[slash], by simp [Tree.name]⟩
    · have := keysList_prefix g skip cs _ k h
      exact (List.prefix_append _ _).trans (by simpa [Tree.name] using this)
theorem keysList_prefix (g : GetObj) (skip : List Bytes) : ∀ (ts : List Tree) (b k : Bytes),
    k ∈ keysList g skip b ts → b <+: k
  | [], _, _, h => by simp [keysList] at h
  | t :: ts, b, k, h => by
    rw [keysList_cons] at h
    rcases List.mem_append.1 h with h | h
    · exact (List.prefix_append _ _).trans (keysNode_prefix g skip t b k h)
    · exact keysList_prefix g skip ts b k h
end

theorem populatedList_cons (g : GetObj) (skip : List Bytes) (b : Bytes) (t : Tree) (ts : List Tree) :
    populatedList g skip b (t :: ts) = true ↔ populatedNode g skip b t = true ∧ populatedList g skip b ts = true := by
  simp [populatedList]

theorem populatedList_mem (g : GetObj) (skip : List Bytes) (b : Bytes) : ∀ (ts : List Tree),
    populatedList g skip b ts = true → ∀ t ∈ ts, populatedNode g skip b t = true
  | u :: us, hp, t, h => by
    have := (populatedList_cons g skip b u us).1 hp
    rcases List.mem_cons.1 h with rfl | h
    · exact this.1
    · exact populatedList_mem g skip b us this.2 t h

theorem populatedNode_dir (g : GetObj) (skip : List Bytes) (b n : Bytes) (cs : List Tree) :
    populatedNode g skip b (.dir n cs) = true ↔ (b ++ n) ∈ skip ∨
      (keysNode g skip b (.dir n cs) ≠ [] ∧ populatedList g skip (b ++ n ++ [slash]) cs = true) := by
  simp [populatedNode]

theorem keysNode_dir_eq (c : Cfg) (h : Hyp c) (b n : Bytes) (cs : List Tree) (hs : (b ++ n) ∉ c.skip) :
    keysNode c.getObj c.skip b (.dir n cs) = keysList c.getObj c.skip (b ++ n ++ [slash]) cs := by
  rw [keysNode_dir, if_neg hs, h.noDirObj]; rfl

/-- one event standing for a set of keys: those carrying the prefix all have the entry of `e`, and are
after the marker exactly when `e` is emitted -/
theorem Good.leaf (c : Cfg) (K : List Bytes) (E : List Em) (e : Em) (cond : Prop) (rest : List Bytes)
    (hK : ∀ k ∈ K, c.pfx <+: k → entry c.pfx c.delim k = toEntry e ∧
      (after c.pfx c.delim c.marker k = true ↔ cond) ∧
      ∀ o mk, e = .obj o mk → mk = k ∧ o.key = k ∧ c.getObj k = some (o.size, o.etag))
    (hne : cond → ∃ k ∈ K, c.pfx <+: k) (hpos : cond → E = [e]) (hneg : ¬ cond → E = []) :
    Good c K E (e.name :: rest) := by
  by_cases hc : cond
  · rw [hpos hc]
    refine ⟨?_, fun k hk hP _ => ⟨e, by simp, ((hK k hk hP).1).symm⟩, by simp⟩
    intro em hem
    obtain rfl : em = e := by simpa using hem
    obtain ⟨k, hk, hP⟩ := hne hc
    obtain ⟨h1, h2, h3⟩ := hK k hk hP
    exact ⟨k, hk, hP, h2.2 hc, h1, h3⟩
  · rw [hneg hc]
    exact ⟨by simp, fun k hk hP ha => absurd (((hK k hk hP).2.1).1 ha) hc, by simp⟩

theorem good_file (c : Cfg) (h : Hyp c) (b n : Bytes) (hn : slash ∉ n) (hb : BaseOK c b) :
    Good c (keysNode c.getObj c.skip b (.file n)) (emsOf c (visNode c b (.file n))) (eventsNode b (.file n)) := by
  rw [visNode_file, eventsNode_file, emsOf_cons, show emsOf c [] = [] from rfl, List.append_nil, em_file c h b n hn hb, keysNode_file]
  cases hg : c.getObj (b ++ n) with
  | none =>
    simp only [Option.isSome_none, Bool.false_eq_true, if_false, Option.map_none, ite_self]
    exact Good.nil c _
  | some m =>
    simp only [Option.isSome_some, if_true, Option.map_some]
    refine Good.leaf c _ _ (.obj ⟨b ++ n, m.1, m.2⟩ (b ++ n))
      ((c.marker = [] ∨ blt c.marker (b ++ n) = true) ∧ c.pfx <+: b ++ n) [] ?_
      (fun hc => ⟨_, by simp, hc.2⟩) (fun hc => by rw [if_pos hc]; rfl) (fun hc => by rw [if_neg hc]; rfl)
    intro k hk hP
    obtain rfl : k = b ++ n := by simpa using hk
    obtain ⟨x, hx⟩ := id hP
    have hcut := file_no_cut c h b n x hn hb hx.symm
    refine ⟨?_, ?_, fun o mk he => ?_⟩
    · rw [← hx]
      exact hcut.elim (fun hd => by rw [hd]; exact entry_nil _ _) (entry_append_none _ _ _)
    · rw [← hx, after_append_none _ _ _ _ hcut, hx]
      exact ⟨fun ha => ⟨ha, hP⟩, fun ha => ha.1⟩
    · cases he
      exact ⟨rfl, rfl, hg⟩

theorem good_dir_rolled (c : Cfg) (h : Hyp c) (b n : Bytes) (cs : List Tree) (hn : slash ∉ n)
    (hs : (b ++ n) ∉ c.skip) (hb : BaseOK c b)
    (hpop : keysList c.getObj c.skip (b ++ n ++ [slash]) cs ≠ [])
    (hmc : ∀ k ∈ keysList c.getObj c.skip (b ++ n ++ [slash]) cs, MC c k)
    (h2 : rolledUp c (b ++ n ++ [slash])) :
    Good c (keysNode c.getObj c.skip b (.dir n cs)) (emsOf c (visNode c b (.dir n cs))) (eventsNode b (.dir n cs)) := by
  have hd := h2.1
  have hD : c.delim ≠ [] := by rw [hd]; simp
  have hPa : c.pfx <+: b ++ n := (List.prefix_concat_iff.1 h2.2.1).resolve_left (Ne.symm h2.2.2)
  obtain ⟨x, hx, hxs⟩ := suffix_no_slash c.pfx b n (hb hd) hn hPa
  have hK := keysNode_dir_eq c h b n cs hs
  obtain ⟨hfl, hem⟩ := dir_rolled c h (b ++ n) n cs.isEmpty hs h2 x hx hxs
  rw [emsOf_dir, hfl, hem, if_neg (show Ret.skipDir ≠ Ret.nil by decide), List.append_nil, hK, eventsNode_dir]
  refine Good.leaf c _ _ (.cp (b ++ n ++ [slash])) _ _ ?_
    (fun _ => (List.exists_mem_of_ne_nil _ hpop).imp fun k hk => ⟨hk, h2.2.1.trans (keysList_prefix _ _ cs _ k hk)⟩)
    (fun hc => by rw [if_pos hc]; rfl) (fun hc => by rw [if_neg hc]; rfl)
  -- every key below is rolled up into `b ++ n ++ "/"`
  intro k hk hP
  obtain ⟨t, ht⟩ := keysList_prefix _ _ cs _ k hk
  have hk' : k = c.pfx ++ (x ++ slash :: t) := by rw [← ht, hx]; simp
  have hcut : cut c.delim (x ++ slash :: t) = some x := by rw [hd]; exact cut_byte_some slash x t hxs
  have hcp : c.pfx ++ x ++ c.delim = b ++ n ++ [slash] := by rw [hd, hx]
  refine ⟨?_, ?_, fun o mk he => by cases he⟩
  · rw [hk', entry_append_some _ _ _ x hD hcut, hcp]; rfl
  · have := hmc k hk
    rw [hk'] at this hP
    rw [hk', after_append_some _ _ _ _ x hD hcut
      (fun hM hpm => this hM hD hP x (by rw [List.drop_left' rfl]; exact hcut) hpm), hcp, ← hx]

mutual
theorem good_node (c : Cfg) (h : Hyp c) : ∀ (t : Tree) (b : Bytes), wfNode t = true →
    populatedNode c.getObj c.skip b t = true → BaseOK c b →
    (∀ k ∈ keysNode c.getObj c.skip b t, MC c k) →
    Good c (keysNode c.getObj c.skip b t) (emsOf c (visNode c b t)) (eventsNode b t)
  | .file n, b, hw, _, hb, _ => by
    have hv : validName n = true := by simpa [wfNode] using hw
    exact good_file c h b n (validName_no_slash n hv) hb
  | .dir n cs, b, hw, hpop, hb, hmc => by
    have hw' := (wfNode_dir n cs).1 hw
    have hns := validName_no_slash n hw'.1
    by_cases hs : (b ++ n) ∈ c.skip
    · -- internal bookkeeping directory: skipped, and nothing below it is a key
      obtain ⟨hfl, hem⟩ := dir_skip c (b ++ n) n cs.isEmpty hs
      rw [emsOf_dir, hfl, hem, keysNode_dir, if_pos hs]
      exact Good.nil c _
    · have hK := keysNode_dir_eq c h b n cs hs
      have hpop' : keysList c.getObj c.skip (b ++ n ++ [slash]) cs ≠ [] ∧
          populatedList c.getObj c.skip (b ++ n ++ [slash]) cs = true := by
        have := ((populatedNode_dir _ _ b n cs).1 hpop).resolve_left hs
        rwa [hK] at this
      by_cases h2 : rolledUp c (b ++ n ++ [slash])
      · exact good_dir_rolled c h b n cs hns hs hb hpop'.1 (fun k hk => hmc k (by rw [hK]; exact hk)) h2
      · by_cases h1 : prefixPruned c (b ++ n ++ [slash])
        · -- nothing below can carry the prefix
          obtain ⟨hfl, hem⟩ := dir_pruned c (b ++ n) n cs.isEmpty hs h1
          rw [emsOf_dir, hfl, hem, hK]
          exact Good.of_no_prefix _ fun k hk hP =>
            (List.prefix_or_prefix_of_prefix hP (keysList_prefix _ _ cs _ k hk)).elim h1.1 h1.2
        · obtain ⟨hfl, hem⟩ := dir_descend c h (b ++ n) n cs.isEmpty hs h1 h2
          rw [emsOf_dir, hfl, hem, if_pos rfl, hK, eventsNode_dir]
          exact Good.cons_ev _ (good_list c h cs (b ++ n ++ [slash]) hw'.2 hpop'.2
            ((baseOK_iff_not_rolledUp c _).2 h2) (fun k hk => hmc k (by rw [hK]; exact hk)))
theorem good_list (c : Cfg) (h : Hyp c) : ∀ (ts : List Tree) (b : Bytes), wfList ts = true →
    populatedList c.getObj c.skip b ts = true → BaseOK c b →
    (∀ k ∈ keysList c.getObj c.skip b ts, MC c k) →
    Good c (keysList c.getObj c.skip b ts) (emsOf c (visList c b ts)) (eventsList b ts)
  | [], b, _, _, _, _ => by
    simp only [keysList, visList, eventsList]
    exact Good.nil c _
  | t :: ts, b, hw, hpop, hb, hmc => by
    have hw' := (wfList_cons t ts).1 hw
    have hpop' := (populatedList_cons _ _ b t ts).1 hpop
    rw [keysList_cons, visList_cons, eventsList_cons, emsOf_append]
    exact Good.append
      (good_node c h t b hw'.1 hpop'.1 hb (fun k hk => hmc k (by rw [keysList_cons]; exact List.mem_append.2 (Or.inl hk))))
      (good_list c h ts b hw'.2.2 hpop'.2 hb (fun k hk => hmc k (by rw [keysList_cons]; exact List.mem_append.2 (Or.inr hk))))
end

end Vgw.Model.Walk
