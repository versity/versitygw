/-
  One step of one request of Model.Conc: what it can change, component by component, and induction over
  the reachable states.
-/
import Vgw.Model.Conc
namespace Vgw.Model.Conc

def Act.isPriv : Act → Bool
  | .opentmp | .setattr _ _ => true
  | _ => false

def Act.isPub : Act → Bool
  | .linkat | .linkatx | .rename => true
  | _ => false

def Act.removes : Act → Bool
  | .unlink | .dunlink | .linkat => true
  | _ => false

def Act.isReadAct : Act → Bool
  | .rstat | .listsize | .listnames | .getmeta _ | .gethdr _ | .getetag | .gettags | .ropen | .statign => true
  | _ => false

/-- `a.queues b`: step `a` can put `b` in front of the rest of the program — the rmdir probe of
    `os.Remove` after ENOENT, the remove-and-retry of the old `linkat`, `linkAndReplace`, one `getxattr`
    per listed name. -/
def Act.queues : Act → Act → Bool
  | .unlink, .rmdirProbe | .dunlink, .rmdirProbe => true
  | .linkat, .unlink | .linkat, .linkat => true
  | .linkatx, .linktmp | .linkatx, .lstat | .linkatx, .rename => true
  | .listnames, .getmeta _ => true
  | _, _ => false

theorem Act.queues_removes {a b : Act} (h : a.queues b = true) (hb : b.removes = true) : a.removes = true := by
  unfold Act.queues at h; split at h <;> first | rfl | cases hb | cases h

theorem Act.queues_read {a b : Act} (h : a.queues b = true) (ha : a.isReadAct = true) : ∃ k, b = .getmeta k := by
  unfold Act.queues at h; split at h <;> first | exact ⟨_, rfl⟩ | cases ha | cases h

def answer (rq : Req) (fs : FS) (l : Local) : Resp :=
  match rq.kind with
  | .get => .read { l.acc with body := (l.fd.bind (fs.inodes[·]?)).map (·.data) }
  | .head => .read l.acc
  | _ => .ok

theorem answer_write {rq : Req} (fs : FS) (l : Local) (hw : rq.kind.isWrite = true) : answer rq fs l = .ok := by
  unfold answer; cases hk : rq.kind <;> simp [hk, Kind.isWrite] at hw <;> rfl

theorem answer_delete {rq : Req} (fs : FS) (l : Local) (hd : rq.kind = .delete) : answer rq fs l = .ok := by
  unfold answer; rw [hd]

theorem answer_read_kind {rq : Req} {fs : FS} {l : Local} {r : ReadResp} (h : answer rq fs l = .read r) :
    rq.kind.isRead = true := by
  unfold answer at h
  split at h
  · rename_i hk; rw [hk]; rfl
  · rename_i hk; rw [hk]; rfl
  · cases h

theorem answer_ne_noSuchKey (rq : Req) (fs : FS) (l : Local) : answer rq fs l ≠ .noSuchKey := by
  unfold answer; split <;> exact nofun

theorem finalize_done {l : Local} (rq : Req) (fs : FS) (hp : l.prog = []) (hr : l.result = none) :
    finalize rq fs l = { l with result := some (answer rq fs l) } := by
  unfold finalize answer
  rw [hp, hr]
  cases rq.kind <;> rfl

theorem finalize_running {l : Local} (rq : Req) (fs : FS) (h : l.prog ≠ [] ∨ l.result ≠ none) :
    finalize rq fs l = l := by
  unfold finalize
  split
  · rename_i h1 h2; exact h.elim (absurd h1) (absurd h2)
  · rfl

theorem finalize_eq (rq : Req) (fs : FS) (l : Local) :
    finalize rq fs l = { l with result := (finalize rq fs l).result } := by
  unfold finalize; split <;> (try split) <;> rfl

theorem finalize_prog (rq : Req) (fs : FS) (l : Local) : (finalize rq fs l).prog = l.prog :=
  by rw [finalize_eq]

theorem finalize_tmp (rq : Req) (fs : FS) (l : Local) : (finalize rq fs l).tmp = l.tmp :=
  by rw [finalize_eq]

theorem finalize_fd (rq : Req) (fs : FS) (l : Local) : (finalize rq fs l).fd = l.fd :=
  by rw [finalize_eq]

theorem finalize_views (rq : Req) (fs : FS) (l : Local) : (finalize rq fs l).views = l.views :=
  by rw [finalize_eq]

theorem finalize_acc (rq : Req) (fs : FS) (l : Local) : (finalize rq fs l).acc = l.acc :=
  by rw [finalize_eq]

theorem finalize_result (rq : Req) (fs : FS) (l : Local) :
    (finalize rq fs l).result = l.result ∨
      l.prog = [] ∧ l.result = none ∧ (finalize rq fs l).result = some (answer rq fs l) := by
  by_cases hp : l.prog = []
  · cases hr : l.result with
    | none => exact .inr ⟨hp, rfl, by rw [finalize_done rq fs hp hr]⟩
    | some r => rw [finalize_running rq fs (.inr (by simp [hr]))]; exact .inl hr
  · exact .inl (by rw [finalize_running rq fs (.inl hp)])

theorem readAct_frame (t : Option Inode) (l : Local) (a : Act) :
    (readAct t l a).tmp = l.tmp ∧ (readAct t l a).fd = l.fd ∧ (readAct t l a).views = l.views ∧
    (readAct t l a).acc.body = l.acc.body := by
  fun_cases readAct t l a <;> exact ⟨rfl, rfl, rfl, rfl⟩

theorem readAct_prog (t : Option Inode) (l : Local) (a : Act) :
    (t = none ∧ readAct t l a = fail l) ∨
    ((readAct t l a).result = l.result ∧
      ((readAct t l a).prog = l.prog ∨ (readAct t l a).prog = dropMeta l.prog ∨
        a = .listnames ∧ ∃ ks : List Nat, (readAct t l a).prog = ks.map .getmeta ++ l.prog)) := by
  unfold readAct
  split
  · split
    · exact .inl ⟨rfl, rfl⟩
    · exact .inr ⟨rfl, .inl rfl⟩
  · split
    · exact .inr ⟨rfl, .inr (.inl rfl)⟩
    · split
      · exact .inr ⟨rfl, .inr (.inl rfl)⟩
      · exact .inr ⟨rfl, .inl rfl⟩
  · split
    · exact .inr ⟨rfl, .inr (.inl rfl)⟩
    · split
      · exact .inr ⟨rfl, .inr (.inl rfl)⟩
      · exact .inr ⟨rfl, .inr (.inr ⟨rfl, _, rfl⟩)⟩
  · split <;> exact .inr ⟨rfl, .inl rfl⟩
  · split <;> exact .inr ⟨rfl, .inl rfl⟩
  · exact .inr ⟨rfl, .inl rfl⟩
  · split
    · exact .inl ⟨rfl, rfl⟩
    · exact .inr ⟨rfl, .inl rfl⟩
  · exact .inr ⟨rfl, .inl rfl⟩

theorem readAct_views_irrel (t : Option Inode) (l : Local) (a : Act) (vs : List (Option Nat)) :
    readAct t { l with views := vs } a = { readAct t l a with views := vs } := by
  unfold readAct; split <;> (repeat' split) <;> rfl

theorem execAct_fs (c : Cfg) (rq : Req) (fs : FS) (l : Local) (a : Act) :
    (execAct c rq fs l a).1 = fs ∨
    a.removes = true ∧ (execAct c rq fs l a).1 = { fs with key := none } ∨
    a.isPub = true ∧ (execAct c rq fs l a).1 = { inodes := fs.inodes ++ [l.tmp], key := some fs.inodes.length } := by
  fun_cases execAct c rq fs l a <;>
    first | exact .inl rfl | exact .inr (.inl ⟨rfl, rfl⟩) | exact .inr (.inr ⟨rfl, rfl⟩)

theorem execAct_frame (c : Cfg) (rq : Req) (fs : FS) (l : Local) (a : Act) :
    (execAct c rq fs l a).2.views = fs.key :: l.views ∧ (execAct c rq fs l a).2.acc.body = l.acc.body ∧
    ((execAct c rq fs l a).2.tmp = l.tmp ∨ a.isPriv = true) ∧
    ((execAct c rq fs l a).2.fd = l.fd ∨
      a = .ropen ∧ (execAct c rq fs l a).2.fd = fs.key ∧ fs.key ≠ none) := by
  fun_cases execAct c rq fs l a
  all_goals try exact ⟨rfl, rfl, .inl rfl, .inl rfl⟩
  · exact ⟨rfl, rfl, .inr rfl, .inl rfl⟩    -- opentmp
  · exact ⟨rfl, rfl, .inr rfl, .inl rfl⟩    -- setattr
  · rename_i h                              -- ropen, found
    exact ⟨rfl, rfl, .inl rfl, .inr ⟨rfl, h.symm, h ▸ Option.some_ne_none _⟩⟩
  · -- the reading steps
    exact ⟨(readAct_frame ..).2.2.1, (readAct_frame ..).2.2.2, .inl (readAct_frame ..).1, .inl (readAct_frame ..).2.1⟩

theorem execAct_result (c : Cfg) (rq : Req) (fs : FS) (l : Local) (a : Act) :
    (execAct c rq fs l a).2.result = l.result ∨
      ∃ r, (execAct c rq fs l a).2.result = some r ∧ ∀ x, r ≠ .read x := by
  fun_cases execAct c rq fs l a
  all_goals try exact .inl rfl
  all_goals try exact .inr ⟨_, rfl, nofun⟩    -- cstat, dstat, dunlink, ropen failing
  · -- the reading steps
    exact (readAct_prog ..).elim (fun h => .inr ⟨_, congrArg Local.result h.2, nofun⟩) (fun h => .inl h.1)

theorem execAct_prog_sub (c : Cfg) (rq : Req) (fs : FS) (l : Local) (a : Act) :
    ∀ b ∈ (execAct c rq fs l a).2.prog, b ∈ l.prog ∨ a.queues b = true := by
  intro b
  have ins : ∀ (a : Act) (n : List Act), n.all a.queues = true → b ∈ n ++ l.prog → b ∈ l.prog ∨ a.queues b = true :=
    fun a n hn h => (List.mem_append.1 h).elim (fun h => .inr (List.all_eq_true.1 hn b h)) .inl
  fun_cases execAct c rq fs l a <;> intro hb
  all_goals try exact .inl hb
  · exact ins _ [.rmdirProbe] rfl hb                            -- unlink, ENOENT
  · exact ins _ [.unlink, .linkat] rfl hb                       -- linkat, EEXIST
  · exact ins _ [.linktmp, .lstat, .rename] rfl hb              -- linkatx, EEXIST
  · cases hb                                                    -- cstat, fatal
  · cases hb                                                    -- dstat, absent
  · exact ins _ [.rmdirProbe] rfl (List.mem_append_left _ hb)   -- dunlink, ENOENT
  · cases hb                                                    -- ropen, ENOENT
  · -- the reading steps
    rcases readAct_prog ((target c fs { l with views := fs.key :: l.views }).bind (fs.inodes[·]?))
      { l with views := fs.key :: l.views } a with ⟨_, h⟩ | ⟨_, h | h | ⟨ha, ks, h⟩⟩ <;> rw [Prod.snd, h] at hb
    · cases hb
    · exact .inl hb
    · exact .inl (List.mem_filter.1 hb).1
    · refine ins _ (ks.map .getmeta) ?_ hb
      rw [ha, List.all_map]; exact List.all_eq_true.2 fun _ _ => rfl

theorem execAct_inodes_mono (c : Cfg) (rq : Req) (fs : FS) (l : Local) (a : Act) :
    ∃ ext, (execAct c rq fs l a).1.inodes = fs.inodes ++ ext := by
  rcases execAct_fs c rq fs l a with e | ⟨_, e⟩ | ⟨_, e⟩ <;> rw [e]
  · exact ⟨[], (List.append_nil _).symm⟩
  · exact ⟨[], (List.append_nil _).symm⟩
  · exact ⟨_, rfl⟩

abbrev after (c : Cfg) (rq : Req) (fs : FS) (l : Local) (a : Act) (rest : List Act) : FS × Local :=
  ((execAct c rq fs { l with prog := rest } a).1,
   finalize rq (execAct c rq fs { l with prog := rest } a).1 (execAct c rq fs { l with prog := rest } a).2)

theorem after_fst (c : Cfg) (rq : Req) (fs : FS) (l : Local) (a : Act) (rest : List Act) :
    (after c rq fs l a rest).1 = (execAct c rq fs { l with prog := rest } a).1 := rfl

theorem after_snd (c : Cfg) (rq : Req) (fs : FS) (l : Local) (a : Act) (rest : List Act) :
    (after c rq fs l a rest).2 =
      finalize rq (execAct c rq fs { l with prog := rest } a).1 (execAct c rq fs { l with prog := rest } a).2 := rfl

theorem after_read_result {c : Cfg} {rq : Req} {fs : FS} {l : Local} {a : Act} {rest : List Act} {r : ReadResp}
    (h : (after c rq fs l a rest).2.result = some (.read r)) :
    l.result = some (.read r) ∨
      answer rq (after c rq fs l a rest).1 (execAct c rq fs { l with prog := rest } a).2 = .read r := by
  rcases finalize_result rq (execAct c rq fs { l with prog := rest } a).1 (execAct c rq fs { l with prog := rest } a).2
    with e | ⟨_, _, e⟩ <;> rw [after_snd, e] at h
  · rcases execAct_result c rq fs { l with prog := rest } a with e | ⟨x, e, hx⟩ <;> rw [e] at h
    · exact .inl h
    · cases h; exact absurd rfl (hx r)
  · exact .inr (Option.some.inj h)

theorem step_spec {c : Cfg} {s s' : State} {i : Nat} (h : step c s i = some s') :
    ∃ rq l a rest, s.reqs[i]? = some (rq, l) ∧ l.prog = a :: rest ∧
      s'.fs = (after c rq s.fs l a rest).1 ∧ s'.reqs = s.reqs.set i (rq, (after c rq s.fs l a rest).2) ∧
      s'.trace = { rid := i, act := a, saw := s.fs.key, now := s'.fs.key,
                   fin := (after c rq s.fs l a rest).2.done } :: s.trace := by
  unfold step at h
  split at h
  · cases h
  · rename_i rq l hr
    split at h
    · cases h
    · rename_i a rest hp
      cases h
      exact ⟨rq, l, a, rest, hr, hp, rfl, rfl, rfl⟩

theorem Reach.trans {c : Cfg} {s0 s1 s2 : State} (h1 : Reach c s0 s1) (h2 : Reach c s1 s2) : Reach c s0 s2 := by
  induction h2 with
  | refl => exact h1
  | step _ hs ih => exact Reach.step ih hs

/-- `P` (a fact about one request) may depend on the filesystem state only through the inode table:
    the steps of the other requests can only extend it (`mono`). -/
theorem reach_induct {c : Cfg} {G : FS → Prop} {P : Nat → FS → Req → Local → Prop} {s0 s : State}
    (mono : ∀ i fs fs' rq l, (∃ ext, fs'.inodes = fs.inodes ++ ext) → P i fs rq l → P i fs' rq l)
    (own : ∀ i fs rq l a rest, G fs → P i fs rq l → l.prog = a :: rest →
      G (after c rq fs l a rest).1 ∧ P i (after c rq fs l a rest).1 rq (after c rq fs l a rest).2)
    (g0 : G s0.fs) (p0 : ∀ i rq l, s0.reqs[i]? = some (rq, l) → P i s0.fs rq l) (h : Reach c s0 s) :
    G s.fs ∧ ∀ i rq l, s.reqs[i]? = some (rq, l) → P i s.fs rq l := by
  induction h with
  | refl => exact ⟨g0, p0⟩
  | step _ hs ih =>
    obtain ⟨rq, l, a, rest, hr, hp, hfs, hreqs, _⟩ := step_spec hs
    have ho := own _ _ rq l a rest ih.1 (ih.2 _ rq l hr) hp
    rw [hfs]
    refine ⟨ho.1, fun j rq' l' hj => ?_⟩
    rw [hreqs, List.getElem?_set] at hj
    split at hj
    · rename_i hij
      rw [if_pos (List.getElem?_eq_some_iff.1 hr).1] at hj
      cases hj; cases hij
      exact ho.2
    · exact mono j _ _ rq' l' (execAct_inodes_mono ..) (ih.2 j rq' l' hj)

theorem init_reqs {c : Cfg} {fs0 : FS} {rqs : List Req} {i : Nat} {rq : Req} {l : Local}
    (h : (init c fs0 rqs).reqs[i]? = some (rq, l)) : rqs[i]? = some rq ∧ l = { prog := program c rq } := by
  simp only [init, List.getElem?_map, Option.map_eq_some_iff] at h
  obtain ⟨rq', h1, h2⟩ := h
  cases h2
  exact ⟨h1, rfl⟩

end Vgw.Model.Conc
