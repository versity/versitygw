/-
  Tree-level facts: shape of event paths and keys, `events_sorted` (pre-order = ascending paths
  under OrderCompatible), visible events are a sublist of all events.
-/
import Vgw.Lemmas.Walk
namespace Vgw.Model.Walk
open Vgw

theorem wfList_cons (t : Tree) (ts : List Tree) :
    wfList (t :: ts) = true ↔ wfNode t = true ∧ (∀ u ∈ ts, blt t.name u.name = true) ∧ wfList ts = true := by
  simp [wfList, allNames, and_assoc]

theorem wfNode_dir (n : Bytes) (cs : List Tree) : wfNode (.dir n cs) = true ↔ validName n = true ∧ wfList cs = true := by
  simp [wfNode]

theorem ocNode_dir (n : Bytes) (cs : List Tree) : ocNode (.dir n cs) = ocList cs := by simp [ocNode]

theorem wfList_mem : ∀ (ts : List Tree), wfList ts = true → ∀ t ∈ ts, wfNode t = true
  | [], _, _, h => by simp at h
  | u :: us, hw, t, h => by
    have := (wfList_cons u us).1 hw
    rcases List.mem_cons.1 h with rfl | h
    · exact this.1
    · exact wfList_mem us this.2.2 t h

theorem wfNode_validName (t : Tree) (h : wfNode t = true) : validName t.name = true := by
  cases t with
  | file n => simpa [wfNode, Tree.name] using h
  | dir n cs => exact ((wfNode_dir n cs).1 h).1

theorem validName_no_slash (n : Bytes) (h : validName n = true) : slash ∉ n := by
  simp [validName] at h
  exact h.2

theorem validName_ne_nil (n : Bytes) (h : validName n = true) : n ≠ [] := by
  simp [validName, validElem] at h
  exact h.1.1.1

theorem ocList_cons (t : Tree) (ts : List Tree) :
    ocList (t :: ts) = true ↔ ocNode t = true ∧ (t.isDir = true → ∀ u ∈ ts, badExt t.name u.name = false) ∧ ocList ts = true := by
  cases hd : t.isDir <;> simp [ocList, allNames, hd, and_assoc]

theorem badExt_append_cons (n : Bytes) (ch : UInt8) (w : Bytes) : badExt n (n ++ ch :: w) = decide (ch < slash) := by
  have h1 : n.isPrefixOf (n ++ ch :: w) = true := (isPrefixOf_iff _ _).2 (List.prefix_append _ _)
  simp [badExt, h1]

theorem badExt_iff (n m : Bytes) : badExt n m = true ↔ ∃ ch w, m = n ++ ch :: w ∧ ch < slash := by
  constructor
  · intro h
    unfold badExt at h
    rw [Bool.and_eq_true] at h
    obtain ⟨w, rfl⟩ := (isPrefixOf_iff _ _).1 h.1
    have h2 := h.2
    rw [List.drop_left' rfl] at h2
    cases w with
    | nil => simp at h2
    | cons ch w' => exact ⟨ch, w', rfl, by simpa using h2⟩
  · rintro ⟨ch, w, rfl, h⟩
    rw [badExt_append_cons]
    simpa using h

theorem ocList_mem : ∀ (ts : List Tree), ocList ts = true → ∀ t ∈ ts, ocNode t = true
  | [], _, _, h => by simp at h
  | u :: us, ho, t, h => by
    have := (ocList_cons u us).1 ho
    rcases List.mem_cons.1 h with rfl | h
    · exact this.1
    · exact ocList_mem us this.2.2 t h

theorem eventsNode_file (b n : Bytes) : eventsNode b (.file n) = [b ++ n] := by simp [eventsNode]

theorem eventsNode_dir (b n : Bytes) (cs : List Tree) :
    eventsNode b (.dir n cs) = (b ++ n ++ [slash]) :: eventsList (b ++ n ++ [slash]) cs := by simp [eventsNode]

theorem eventsList_cons (b : Bytes) (t : Tree) (ts : List Tree) :
    eventsList b (t :: ts) = eventsNode b t ++ eventsList b ts := by simp [eventsList]

theorem eventsList_eq_flatMap (b : Bytes) : ∀ ts : List Tree, eventsList b ts = ts.flatMap (eventsNode b)
  | [] => by simp [eventsList]
  | t :: ts => by rw [eventsList_cons, List.flatMap_cons, eventsList_eq_flatMap b ts]

theorem mem_eventsList (ts : List Tree) (base p : Bytes) :
    p ∈ eventsList base ts ↔ ∃ u ∈ ts, p ∈ eventsNode base u := by
  rw [eventsList_eq_flatMap, List.mem_flatMap]

mutual
theorem eventsNode_prefix : ∀ (t : Tree) (base p : Bytes), p ∈ eventsNode base t →
    ∃ r, p = base ++ (t.name ++ r) ∧ (r = [] ∨ (t.isDir = true ∧ ∃ r', r = slash :: r'))
  | .file n, base, p, h => by
    simp [eventsNode] at h
    exact ⟨[], by simpa [Tree.name] using h, Or.inl rfl⟩
  | .dir n cs, base, p, h => by
    simp only [eventsNode, List.mem_cons] at h
    rcases h with rfl | h
    · exact ⟨[slash], by simp [Tree.name], Or.inr ⟨rfl, [], rfl⟩⟩
    · obtain ⟨r, hr⟩ := eventsList_prefix cs (base ++ n ++ [slash]) p h
      exact ⟨slash :: r, by rw [hr]; simp [Tree.name], Or.inr ⟨rfl, r, rfl⟩⟩
theorem eventsList_prefix : ∀ (ts : List Tree) (base p : Bytes), p ∈ eventsList base ts →
    ∃ r, p = base ++ r
  | [], _, _, h => by simp [eventsList] at h
  | t :: ts, base, p, h => by
    simp only [eventsList, List.mem_append] at h
    rcases h with h | h
    · obtain ⟨r, hp, _⟩ := eventsNode_prefix t base p h
      exact ⟨_, hp⟩
    · exact eventsList_prefix ts base p h
end

/-- the comparison of two sibling subtrees: every event of `t` is below every event of a later
sibling `u` whose name does not extend `t`'s directory name by a byte below '/' -/
theorem sibling_lt (t u : Tree) (base a b : Bytes)
    (hu : validName u.name = true)
    (hlt : blt t.name u.name = true) (hoc : t.isDir = true → badExt t.name u.name = false)
    (ha : a ∈ eventsNode base t) (hb : b ∈ eventsNode base u) : blt a b = true := by
  obtain ⟨ra, hra, hra'⟩ := eventsNode_prefix t base a ha
  obtain ⟨rb, hrb, _⟩ := eventsNode_prefix u base b hb
  rw [hra, hrb, blt_append_left]
  by_cases hp : t.name <+: u.name
  · obtain ⟨w, hw⟩ := hp
    rw [← hw, List.append_assoc, blt_append_left]
    cases w with
    | nil => rw [List.append_nil] at hw; exact absurd hw (blt_ne _ _ hlt)
    | cons ch w' =>
      rcases hra' with h | ⟨hd, r, h⟩
      · rw [h]; simp
      · rw [h]
        simp only [List.cons_append]
        rw [blt_cons_cons]
        have hbad := hoc hd
        have hch : ¬ ch < slash := by
          rw [← hw, badExt_append_cons] at hbad
          simpa using hbad
        have hne : ch ≠ slash := by
          intro he
          apply validName_no_slash _ hu
          rw [← hw, he]; simp
        simp [(UInt8.lt_or_lt_of_ne hne).resolve_left hch]
  · exact blt_append_of_not_prefix _ _ hlt hp _ _

mutual
theorem eventsNode_sorted : ∀ (t : Tree) (base : Bytes), wfNode t = true → ocNode t = true →
    (eventsNode base t).Pairwise (fun a b => blt a b = true)
  | .file n, base, _, _ => by simp [eventsNode]
  | .dir n cs, base, hw, ho => by
    have hw' := (wfNode_dir n cs).1 hw
    have ho' : ocList cs = true := ocNode_dir n cs ▸ ho
    simp only [eventsNode]
    refine List.pairwise_cons.2 ⟨?_, eventsList_sorted cs _ hw'.2 ho'⟩
    intro p hp
    obtain ⟨u, hu, hpu⟩ := (mem_eventsList cs _ p).1 hp
    have hune := validName_ne_nil _ (wfNode_validName u (wfList_mem cs hw'.2 u hu))
    obtain ⟨r, hr, _⟩ := eventsNode_prefix u _ p hpu
    rw [hr]
    exact blt_append_right _ _ (by simp [hune])
theorem eventsList_sorted : ∀ (ts : List Tree) (base : Bytes), wfList ts = true → ocList ts = true →
    (eventsList base ts).Pairwise (fun a b => blt a b = true)
  | [], _, _, _ => by simp [eventsList]
  | t :: ts, base, hw, ho => by
    have hw' := (wfList_cons t ts).1 hw
    have ho' := (ocList_cons t ts).1 ho
    simp only [eventsList]
    rw [List.pairwise_append]
    refine ⟨eventsNode_sorted t base hw'.1 ho'.1, eventsList_sorted ts base hw'.2.2 ho'.2.2, ?_⟩
    intro a ha b hb
    obtain ⟨u, hu, hbu⟩ := (mem_eventsList ts base b).1 hb
    exact sibling_lt t u base a b (wfNode_validName u (wfList_mem ts hw'.2.2 u hu))
      (hw'.2.1 u hu) (fun hd => ho'.2.1 hd u hu) ha hbu
end

theorem eventsNode_own (base : Bytes) (u : Tree) :
    ∃ r, (r = [] ∨ r = [slash]) ∧ (base ++ u.name ++ r) ∈ eventsNode base u := by
  cases u with
  | file n => exact ⟨[], Or.inl rfl, by simp [eventsNode, Tree.name]⟩
  | dir n cs => exact ⟨[slash], Or.inr rfl, by simp [eventsNode, Tree.name]⟩

mutual
theorem oc_of_eventsNode_sorted : ∀ (t : Tree) (base : Bytes),
    (eventsNode base t).Pairwise (fun a b => blt a b = true) → ocNode t = true
  | .file _, _, _ => by simp [ocNode]
  | .dir n cs, base, h => by
    simp only [eventsNode] at h
    rw [ocNode_dir]
    exact oc_of_eventsList_sorted cs _ (List.pairwise_cons.1 h).2
theorem oc_of_eventsList_sorted : ∀ (ts : List Tree) (base : Bytes),
    (eventsList base ts).Pairwise (fun a b => blt a b = true) → ocList ts = true
  | [], _, _ => by simp [ocList]
  | t :: ts, base, h => by
    simp only [eventsList] at h
    rw [List.pairwise_append] at h
    obtain ⟨h1, h2, hcross⟩ := h
    rw [ocList_cons]
    refine ⟨oc_of_eventsNode_sorted t base h1, ?_, oc_of_eventsList_sorted ts base h2⟩
    intro hd u hu
    cases hb : badExt t.name u.name with
    | false => rfl
    | true =>
      exfalso
      obtain ⟨ch, w', hw, hch⟩ := (badExt_iff _ _).1 hb
      -- t's own event `base ++ t.name ++ "/"` against u's own event
      have ht : (base ++ t.name ++ [slash]) ∈ eventsNode base t := by
        cases t with
        | file n => simp [Tree.isDir] at hd
        | dir n cs => simp [eventsNode, Tree.name]
      obtain ⟨r, _, hr⟩ := eventsNode_own base u
      have := hcross _ ht _ ((mem_eventsList ts base _).2 ⟨u, hu, hr⟩)
      rw [hw] at this
      have e : base ++ (t.name ++ ch :: w') ++ r = base ++ t.name ++ (ch :: (w' ++ r)) := by simp
      rw [e, blt_append_left, blt_cons_cons] at this
      have h1 : ¬ slash < ch := UInt8.lt_asymm hch
      have h2 : slash ≠ ch := fun e => by rw [e] at hch; exact UInt8.lt_irrefl _ hch
      simp [h1, h2] at this
end

mutual
theorem visNode_epath_sublist (c : Cfg) : ∀ (t : Tree) (b : Bytes),
    ((visNode c b t).map Ev.epath).Sublist (eventsNode b t)
  | .file n, b => by simp [visNode, eventsNode, Ev.epath]
  | .dir n cs, b => by
    simp only [visNode, eventsNode, List.map_cons]
    have he : Ev.epath ⟨b ++ n, n, true, cs.isEmpty⟩ = b ++ n ++ [slash] := by simp [Ev.epath]
    rw [he]
    apply List.Sublist.cons₂
    split
    · exact visList_epath_sublist c cs _
    · simp
theorem visList_epath_sublist (c : Cfg) : ∀ (ts : List Tree) (b : Bytes),
    ((visList c b ts).map Ev.epath).Sublist (eventsList b ts)
  | [], _ => by simp [visList, eventsList]
  | t :: ts, b => by
    simp only [visList, eventsList, List.map_append]
    exact List.Sublist.append (visNode_epath_sublist c t b) (visList_epath_sublist c ts b)
end

end Vgw.Model.Walk
