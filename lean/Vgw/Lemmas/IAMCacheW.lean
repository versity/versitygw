/-
  REGRESSION MODEL (the write-through cache of the code before 6f25651, `Variant.invalidate =
  false`): its cache invariant.  As long as
  (a) no change of a key is decided while a lookup of that key sits between its fetch and its
  cache.set, or while another change of that key still owes the cache its step, and (b) the entry
  that CreateAccount builds equals the account (`entryOf v a = a`: uid = gid = 0, or `copyIds`),
  the cache agrees with the store on every key that nobody is changing.  (`QuietAt` is that side
  condition; Open/C17.lean shows that each part of it is needed.)
-/
import Vgw.Lemmas.IAMLock
import Vgw.Lemmas.IAMPending
namespace Vgw.Model.IAM
open Vgw
open Vgw.Model.Gw (Account Role)

/-- all cache entries of key k (expired ones included) carry what the store answers for k -/
def Coh (cfg : Cfg) (cm : Store) (it : Items) (k : Bytes) : Prop :=
  ∀ e ∈ it, e.key = k → look cfg cm k = some e.val

/-- what makes the write-through step of a decided change restore agreement -/
def Guar (v : Variant) (cm : Store) (it : Items) : Op → Prop
  | .create a => cm.find a.access = some a ∧ entryOf v a = a
  | .update k p => ∃ x, cm.find k = some x ∧ updateAcc x p = x ∧ ∀ e ∈ it, e.key = k → updateAcc e.val p = x
  | .delete k => cm.find k = none
  | _ => True

structure CInvW (v : Variant) (cfg : Cfg) (σ : State) : Prop where
  rootFree : σ.committed.find cfg.root.access = none
  coh : ∀ k, ¬ Pending σ.calls k → Coh cfg σ.committed σ.items k
  guar : ∀ (j : Nat) (c : Call), σ.calls[j]? = some c → pend c.pc = true → Guar v σ.committed σ.items c.op
  fet : ∀ (i : Nat) (c : Call) (a : Account) (g : Nat), σ.calls[i]? = some c → c.pc = .gFetched a g →
    look cfg σ.committed c.op.key = some a

/-- the side condition at the rename of call i -/
def QuietAt (v : Variant) (σ : State) (i : Nat) (c : Call) : Prop :=
  (∀ (j : Nat) (cj : Call), j ≠ i → σ.calls[j]? = some cj → cj.op.key = c.op.key →
      pend cj.pc = false ∧ ∀ a g, cj.pc ≠ .gFetched a g) ∧
  (∀ a, c.op = .create a → entryOf v a = a)

/-- `CInvW`, its clauses over all calls in the binder order of `forall_setCall` -/
theorem CInvW.of_calls {v : Variant} {cfg : Cfg} {σ : State} (rootFree : σ.committed.find cfg.root.access = none)
    (coh : ∀ k, ¬ Pending σ.calls k → Coh cfg σ.committed σ.items k)
    (guar : ∀ (j : Nat) (c : Call), σ.calls[j]? = some c → pend c.pc = true → Guar v σ.committed σ.items c.op)
    (fet : ∀ (i : Nat) (c : Call), σ.calls[i]? = some c → ∀ a g, c.pc = .gFetched a g →
      look cfg σ.committed c.op.key = some a) : CInvW v cfg σ :=
  ⟨rootFree, coh, guar, fun i c a g hi => fet i c hi a g⟩

theorem CInvW.frame {v : Variant} {cfg : Cfg} {σ σ₁ : State} {i : Nat} {c : Call} {pc' : PC} (h : CInvW v cfg σ)
    (hi : σ.calls[i]? = some c)
    (hit : σ₁.items = σ.items) (hc : σ₁.committed = σ.committed) (hcalls : σ₁.calls = σ.calls)
    (hp : pend pc' = pend c.pc)
    (hf : ∀ a g, pc' = .gFetched a g → look cfg σ.committed c.op.key = some a) :
    CInvW v cfg (σ₁.setCall i ⟨c.op, pc'⟩) := by
  have hP : ∀ k, Pending (σ₁.calls.set i ⟨c.op, pc'⟩) k ↔ Pending σ.calls k :=
    fun k => by rw [hcalls]; exact pending_set_same hi rfl hp
  refine .of_calls ?_ ?_ (forall_setCall hcalls ?_ fun j cj _ hj => ?_) (forall_setCall hcalls ?_ fun j cj _ hj => ?_)
    <;> simp only [State.setCall, hit, hc, hP]
  · exact h.rootFree
  · exact h.coh
  · exact fun hp' => h.guar i c hi (hp ▸ hp')
  · exact h.guar j cj hj
  · exact hf
  · exact fun a g => h.fet j cj a g hj

theorem CInvW.frame_notFetched {v : Variant} {cfg : Cfg} {σ σ₁ : State} {i : Nat} {c : Call} {pc' : PC} (h : CInvW v cfg σ)
    (hi : σ.calls[i]? = some c)
    (hit : σ₁.items = σ.items) (hc : σ₁.committed = σ.committed) (hcalls : σ₁.calls = σ.calls)
    (hp : pend pc' = pend c.pc) (hf : isFetched pc' = false) : CInvW v cfg (σ₁.setCall i ⟨c.op, pc'⟩) :=
  h.frame hi hit hc hcalls hp (fun a g e => by rw [e] at hf; cases hf)

theorem Guar.congr_find {v : Variant} {cm cm' : Store} {it : Items} {op : Op}
    (h : cm'.find op.key = cm.find op.key) (hg : Guar v cm it op) : Guar v cm' it op := by
  cases op <;> first | trivial | (simp only [Guar, Op.key] at h hg ⊢; rw [h]; exact hg)

theorem Guar.of_mutate {v : Variant} {cfg : Cfg} {cm b' : Store} {it : Items} {op : Op}
    (hm : mutate cm op = .ok b') (hr : cm.find cfg.root.access = none) (hcoh : Coh cfg cm it op.key)
    (he : ∀ a, op = .create a → entryOf v a = a) : Guar v b' it op := by
  cases op with
  | create a => exact ⟨(mutate_create_ok hm).2, he a rfl⟩
  | update k p =>
    obtain ⟨acc, hacc, hacc'⟩ := mutate_update_ok hm
    refine ⟨updateAcc acc p, hacc', updateAcc_idem acc p, fun e he hek => ?_⟩
    cases (hcoh e he hek).symm.trans (look_of_find hr hacc); rfl
  | delete k => exact mutate_delete_ok hm
  | get k => trivial
  | list => trivial

/-- the rename under the side condition -/
theorem CInvW.commit {v : Variant} {cfg : Cfg} {σ σ₁ : State} {i : Nat} {c : Call} {b' : Store} (h : CInvW v cfg σ)
    (hi : σ.calls[i]? = some c) (hT : PcT cfg c) (hpc : c.pc = .mTemp b') (hm : mutate σ.committed c.op = .ok b')
    (hq : QuietAt v σ i c)
    (hit : σ₁.items = σ.items) (hc : σ₁.committed = b') (hcalls : σ₁.calls = σ.calls) :
    CInvW v cfg (σ₁.setCall i ⟨c.op, .mRenamed⟩) := by
  have hnp : pend c.pc = false := by rw [hpc]; rfl
  have hnew : Pending (σ.calls.set i ⟨c.op, .mRenamed⟩) c.op.key := pending_set_new (c' := ⟨c.op, .mRenamed⟩) hi rfl
  have hmono : ∀ k, Pending σ.calls k → Pending (σ.calls.set i ⟨c.op, .mRenamed⟩) k := fun k => pending_set_mono hi hnp
  have hlook : ∀ k, k ≠ c.op.key → look cfg b' k = look cfg σ.committed k := fun k => look_mutate cfg hm
  have hTc := hT.1 (Or.inl (by rw [hpc]; rfl))
  -- the side condition: nobody else is pending on, or has fetched, the key that changes
  have hnoP : ¬ Pending σ.calls c.op.key := by
    rintro ⟨j, cj, hj, hpj, hkey⟩
    by_cases hji : j = i
    · subst hji; rw [hi] at hj; cases hj; rw [hnp] at hpj; cases hpj
    · rw [(hq.1 j cj hji hj hkey).1] at hpj; cases hpj
  refine .of_calls ?_ ?_ (forall_setCall hcalls ?_ fun j cj hji hj => ?_) (forall_setCall hcalls ?_ fun j cj hji hj => ?_)
    <;> simp only [State.setCall, hcalls, hit, hc]
  · exact mutate_absent hm h.rootFree hTc.2
  · intro k hk e he hek
    have hkk : k ≠ c.op.key := fun e => hk (e ▸ hnew)
    rw [hlook k hkk]; exact h.coh k (fun hp => hk (hmono k hp)) e he hek
  · exact fun _ => Guar.of_mutate hm h.rootFree (h.coh _ hnoP) hq.2
  · intro hpj
    have hkj : cj.op.key ≠ c.op.key := fun e => by rw [(hq.1 j cj hji hj e).1] at hpj; cases hpj
    exact (h.guar j cj hj hpj).congr_find (mutate_frame hm hkj)
  · exact fun _ _ e => nomatch e
  · intro a g hpcj
    rw [hlook _ (fun e => (hq.1 j cj hji hj e).2 a g hpcj)]; exact h.fet j cj a g hj hpcj

theorem Guar.items {v : Variant} {cfg : Cfg} {cm : Store} {it it' : Items} {op : Op}
    (hr : cm.find cfg.root.access = none)
    (hsub : ∀ e ∈ it', e.key = op.key → e ∈ it ∨ look cfg cm op.key = some e.val)
    (h : Guar v cm it op) : Guar v cm it' op := by
  cases op with
  | update k p =>
    obtain ⟨x, h1, h2, h3⟩ := h
    refine ⟨x, h1, h2, fun e he hek => ?_⟩
    rcases hsub e he hek with h' | h'
    · exact h3 e h' hek
    · cases h'.symm.trans (look_of_find hr h1); exact h2
  | create a => exact h
  | delete k => exact h
  | get k => trivial
  | list => trivial

/-- covers both the write-through step of a decided change and the miss path's cache.set -/
theorem CInvW.items {v : Variant} {cfg : Cfg} {σ : State} {i : Nat} {c : Call} {r : Res} {it' : Items}
    (h : CInvW v cfg σ) (hi : σ.calls[i]? = some c)
    (hold : ∀ e ∈ it', e.key ≠ c.op.key → e ∈ σ.items)
    (hnew : ∀ e ∈ it', e.key = c.op.key → look cfg σ.committed c.op.key = some e.val) :
    CInvW v cfg ({ σ with items := it' }.setCall i ⟨c.op, .done r⟩) := by
  refine .of_calls h.rootFree ?_ (forall_setCall (σ := σ) rfl nofun fun j cj _ hj hpj => ?_)
    (forall_setCall (σ := σ) rfl (fun _ _ e => nomatch e) fun j cj _ hj a g => h.fet j cj a g hj)
  · intro k hk e he hek
    by_cases hkk : k = c.op.key
    · subst hkk; exact hnew e he hek
    · refine h.coh k (fun hp => hk ?_) e (hold e he (hek ▸ hkk)) hek
      by_cases hpc : pend c.pc = true
      · exact (pending_set_other (c' := ⟨c.op, .done r⟩) hi rfl hkk).mpr hp
      · exact pending_set_mono hi (Bool.eq_false_iff.mpr hpc) hp
  · refine (h.guar j cj hj hpj).items h.rootFree fun e he hek => ?_
    by_cases hk : e.key = c.op.key
    · exact .inr (hek ▸ hk ▸ hnew e he hk)
    · exact .inl (hold e he hk)

theorem cacheStep_writeThrough {v : Variant} (cfg : Cfg) (σ : State) (op : Op) (hvc : v.cache = true) (hvi : v.invalidate = false) :
    cacheStep v cfg σ op = { σ with items := match op with
      | .create a => σ.items.set a.access (entryOf v a) (σ.now + cfg.ttl)
      | .update k p => σ.items.update k p (σ.now + cfg.ttl)
      | .delete k => σ.items.del k
      | _ => σ.items } := by
  cases op <;> simp [cacheStep, hvc, hvi]

/-- the write-through step of a decided change -/
theorem CInvW.cacheStep {v : Variant} {cfg : Cfg} {σ : State} {i : Nat} {c : Call} (h : CInvW v cfg σ)
    (hvc : v.cache = true) (hvi : v.invalidate = false)
    (hi : σ.calls[i]? = some c) (hT : PcT cfg c) (hpc : c.pc = .mCache) :
    CInvW v cfg ((cacheStep v cfg σ c.op).setCall i ⟨c.op, .done .ok⟩) := by
  obtain ⟨op, pc⟩ := c
  cases hpc
  have hg := h.guar i _ hi rfl
  have hmut := (hT.1 (.inr rfl)).1
  rw [cacheStep_writeThrough cfg σ op hvc hvi]
  cases op with
  | create a =>
    refine h.items hi (fun e he hk => ?_) (fun e he hk => ?_) <;> rcases Items.mem_set.mp he with rfl | ⟨he, hk'⟩
    · exact absurd rfl hk
    · exact he
    · exact (look_of_find h.rootFree hg.1).trans (congrArg some hg.2.symm)
    · exact absurd hk hk'
  | update k p =>
    obtain ⟨x, h1, h2, h3⟩ := hg
    refine h.items hi (fun e he hk => ?_) (fun e he hk => ?_) <;>
      rcases Items.mem_update he with ⟨he, hk'⟩ | ⟨e0, he0, hk0, rfl⟩
    · exact he
    · exact absurd rfl hk
    · exact absurd hk hk'
    · exact (look_of_find h.rootFree h1).trans (congrArg some (h3 e0 he0 hk0).symm)
  | delete k =>
    exact h.items hi (fun e he _ => (Items.mem_del.mp he).1) (fun e he hk => absurd hk (Items.mem_del.mp he).2)
  | get k => cases hmut
  | list => cases hmut

/-- the miss path's cache.set -/
theorem CInvW.set {v : Variant} {cfg : Cfg} {σ : State} {i : Nat} {c : Call} {a : Account} {g x : Nat} (h : CInvW v cfg σ)
    (hi : σ.calls[i]? = some c) (hpc : c.pc = .gFetched a g) :
    CInvW v cfg ({ σ with items := σ.items.set c.op.key a x }.setCall i ⟨c.op, .done (.acct a)⟩) := by
  refine h.items hi (fun e he hk => ?_) (fun e he hk => ?_)
  · rcases Items.mem_set.mp he with rfl | ⟨he, _⟩
    · exact absurd rfl hk
    · exact he
  · rcases Items.mem_set.mp he with rfl | ⟨_, hk'⟩
    · exact h.fet i c a g hi hpc
    · exact absurd hk hk'

theorem CInvW.step {v : Variant} {cfg : Cfg} {σ σ₁ : State} {i : Nat} {op : Op} {pc pc' : PC}
    (hvc : v.cache = true) (hvi : v.invalidate = false) (hW : Wf cfg σ) (hT : PcT cfg ⟨op, pc⟩) (h : CInvW v cfg σ)
    (hi : σ.calls[i]? = some ⟨op, pc⟩) (hq : ∀ b', pc = .mTemp b' → QuietAt v σ i ⟨op, pc⟩)
    (hs : Step v cfg σ i op pc σ₁ pc') : CInvW v cfg (σ₁.setCall i ⟨op, pc'⟩) := by
  have hL := (hW.l.calls i _ hi).pc
  cases hs
  case commit b' => exact h.commit hi hT rfl hL.1 (hq b' rfl) rfl rfl rfl
  case cache hc => have := h.cacheStep hvc hvi hi hT rfl; rw [hc] at this; exact this
  case store => exact h.set hi rfl
  case rootFetched hr => exact h.frame hi rfl rfl rfl rfl (fun a g e => by cases e; exact look_root cfg _ hr)
  case getSome =>
    exact h.frame hi rfl rfl rfl rfl (fun a g e => by cases e; exact hL.look_gGot)
  all_goals exact h.frame_notFetched hi rfl rfl rfl rfl rfl

theorem CInvW.act {v : Variant} {cfg : Cfg} {σ : State} (hvc : v.cache = true) (hvi : v.invalidate = false)
    (hW : Wf cfg σ) (hT : TInv cfg σ) (h : CInvW v cfg σ) (a : Act)
    (hq : ∀ i, a = .step i → ∀ (c : Call) (b' : Store), σ.calls[i]? = some c → c.pc = .mTemp b' → QuietAt v σ i c) :
    CInvW v cfg (act v cfg σ a) := by
  cases a with
  | step i =>
    exact stepAt_ind h fun hi hs => h.step hvc hvi hW (hT i _ hi) hi (fun b' hpc => hq i rfl _ b' hi hpc) hs
  | tick n => exact ⟨h.rootFree, h.coh, h.guar, h.fet⟩
  | gc =>
    exact ⟨h.rootFree, fun k hk e he => h.coh k hk e (Items.mem_gc he),
      fun j c hj hp => (h.guar j c hj hp).items h.rootFree fun e he _ => .inl (Items.mem_gc he), h.fet⟩
  | invoke op =>
    refine .of_calls h.rootFree ?_ (forall_invoke nofun h.guar) (forall_invoke (fun _ _ e => nomatch e) fun j cj hj => ?_)
      <;> simp only [Model.IAM.act, pending_append]
    · exact h.coh
    · exact fun a g => h.fet j cj a g hj

end Vgw.Model.IAM
