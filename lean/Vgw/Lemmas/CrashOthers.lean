import Vgw.Lemmas.CrashOwned
/-
  Lemmas.CrashOthers — paths owned by one key are never read by the view of an unrelated key; hence no
  prefix of any plan changes what the API shows for unrelated keys.
-/
namespace Vgw.Model.Crash

/-- Two file keys neither of which is a path-prefix of the other (`a/b` and `a/b/c` are related: the first
    must be a file, the second needs it to be a directory), the second not being a name below `.sgwtmp`. -/
def Unrelated (key k' : Path) : Prop := ¬ key <+: k' ∧ ¬ k' <+: key ∧ k'.head? ≠ some ".sgwtmp"

theorem heads_eq_of_prefixes {a b : String} {x y q : Path} (h1 : a :: x <+: q) (h2 : b :: y <+: q) : a = b := by
  cases q with
  | nil => exact absurd h1.length_le (by simp)
  | cons c t =>
    rw [List.cons_prefix_cons] at h1 h2
    rw [h1.1, h2.1]

theorem prefix_of_snoc_prefix_snoc {a b : Path} {m m' : String} (h : a ++ [m] <+: b ++ [m']) : a <+: b := by
  have h1 : a <+: b ++ [m'] := (List.prefix_append a [m]).trans h
  have h2 : b <+: b ++ [m'] := List.prefix_append b [m']
  have hl : a.length ≤ b.length := by
    have := h.length_le; simp at this; omega
  exact List.prefix_of_prefix_length_le h1 h2 hl

section
variable {cfg : Cfg} {k q : Path}

theorem reads_eq_false (h1 : q ≠ "R" :: cfg.bucket :: k) (h2 : ¬ "S" :: cfg.bucket :: (k ++ ["meta"]) <+: q) :
    reads cfg k q = false := by
  simp only [reads, Bool.or_eq_false_iff, beq_eq_false_iff_ne, ne_eq]
  exact ⟨h1, Bool.eq_false_iff.mpr fun h => h2 (List.isPrefixOf_iff_prefix.mp h)⟩

theorem not_read_of_head {a : String} (h : [a] <+: q) (hR : a ≠ "R") (hS : a ≠ "S") : reads cfg k q = false :=
  reads_eq_false (fun hq => hR (List.cons_prefix_cons.mp (hq ▸ h)).1) fun hs => hS (heads_eq_of_prefixes h hs)

theorem head_sgwtmp {m : String} (hm : m ≠ ".sgwtmp") (h : [".sgwtmp"] <+: k ++ [m] ∨ k ++ [m] <+: [".sgwtmp"]) :
    k.head? = some ".sgwtmp" := by
  cases k with
  | nil => rcases h with h | h <;> exact absurd (List.cons_prefix_cons.mp h).1 (fun he => hm (by rw [he]))
  | cons x t => rcases h with h | h <;> rw [(List.cons_prefix_cons.mp h).1] <;> rfl

theorem not_read_tmp (hk : k.head? ≠ some ".sgwtmp") (h : tmpDir cfg <+: q ∨ ["S", cfg.bucket, ".sgwtmp"] <+: q) :
    reads cfg k q = false := by
  rcases h with h | h
  · refine reads_eq_false (fun hq => hk ?_) fun hs => absurd (heads_eq_of_prefixes h hs) (by decide)
    have h1 : [".sgwtmp"] <+: k := (List.prefix_cons_inj cfg.bucket).mp ((List.prefix_cons_inj "R").mp (hq ▸ h))
    cases k with
    | nil => exact absurd h1.length_le (by simp)
    | cons x t => rw [(List.cons_prefix_cons.mp h1).1]; rfl
  · refine reads_eq_false (fun hq => absurd (List.cons_prefix_cons.mp (hq ▸ h)).1 (by decide)) fun hs => hk ?_
    refine head_sgwtmp (m := "meta") (by decide) ((List.prefix_or_prefix_of_prefix h hs).imp ?_ ?_) <;>
      exact fun h1 => (List.prefix_cons_inj cfg.bucket).mp ((List.prefix_cons_inj "S").mp h1)

end

theorem owned_not_read {cfg : Cfg} {key k' q : Path} (h : Owned cfg key q) (hu : Unrelated key k') :
    reads cfg k' q = false := by
  obtain ⟨hu1, hu2, hu3⟩ := hu
  have hSb : ∀ {x y : Path}, "S" :: cfg.bucket :: x <+: "S" :: cfg.bucket :: y → x <+: y :=
    fun h => (List.prefix_cons_inj cfg.bucket).mp ((List.prefix_cons_inj "S").mp h)
  rcases h with h | h | h | h | h | h | h
  · exact not_read_tmp hu3 (Or.inl h)
  · exact not_read_of_head h (by decide) (by decide)
  · exact not_read_of_head h (by decide) (by decide)
  · exact not_read_tmp hu3 (Or.inr h)
  · -- the object and its ancestors
    rw [objPath_eq] at h
    refine reads_eq_false (fun hq => hu2 ?_) fun hs => absurd (List.cons_prefix_cons.mp (hs.trans h)).1 (by decide)
    exact (List.prefix_cons_inj cfg.bucket).mp ((List.prefix_cons_inj "R").mp (hq ▸ h))
  · -- the key's sidecar directory and the directories above it
    rw [sideOf_obj] at h
    exact reads_eq_false (fun hq => absurd (List.cons_prefix_cons.mp (hq ▸ h)).1 (by decide))
      fun hs => hu2 (prefix_of_snoc_prefix_snoc (hSb (hs.trans h)))
  · -- below the key's sidecar directory
    rw [sideOf_obj] at h
    refine reads_eq_false (fun hq => absurd (List.cons_prefix_cons.mp (hq ▸ h)).1 (by decide)) fun hs => ?_
    rcases List.prefix_or_prefix_of_prefix h hs with h1 | h1
    · exact hu1 (prefix_of_snoc_prefix_snoc (hSb h1))
    · exact hu2 (prefix_of_snoc_prefix_snoc (hSb h1))

theorem silent_of_owned {cfg : Cfg} {key k' : Path} {l : List Step} (h : WritesOwned cfg key l) (hu : Unrelated key k') :
    ∀ s ∈ l, s.silent (reads cfg k') = true :=
  fun s hs => Step.silent_iff.mpr fun q hq => owned_not_read (h s hs q hq) hu

end Vgw.Model.Crash
