/-
  Fragmentation independence of Model.ChunkSigned (the reader as of /repo 7242bc4): `f` and then `g` to
  two successive `Read`s gives the same run as `f ++ g` to one — for ARBITRARY bytes, valid or not —
  unless the 1024-byte limit on a stashed partial header strikes.
-/
import Vgw.Lemmas.ChunkStep
namespace Vgw.Lemmas.ChunkMerge
open Vgw Vgw.Model Vgw.Model.ChunkSigned Vgw.Lemmas.ChunkParse

theorem cont_setC (cfg : Cfg) (K : State → Bytes → Res) (c : Int) (sL : State) (size off : Int) (p : Bytes) :
    REq (cont cfg K (setC c sL) size off p) (cont cfg K sL size off p) := by
  fun_cases cont cfg K sL size off p with
  | case1 h => rw [cont, if_pos h]; exact .of_not_nil rfl nofun
  | case2 h1 h2 h3 => rw [cont, if_neg h1, if_pos h2, if_pos h3]; exact .of_not_nil rfl nofun
  | case3 h1 h2 h3 => rw [cont, if_neg h1, if_pos h2, if_neg h3]; exact .refl _
  | case4 h1 h2 => rw [cont, if_neg h1, if_neg h2]; exact .refl _

theorem parBody_setC (cfg : Cfg) (K : State → Bytes → Res) (c : Int) (st : State) (p : Bytes) :
    REq (parBody cfg K (setC c st) p) (parBody cfg K st p) := by
  cases hh : parseChunkHeaderBytes cfg st p with
  | mk st2 res =>
  have hC := hdr_setC c hh
  cases res with
  | skip => rw [parBody_skip K hC, parBody_skip K hh]; exact .refl _
  | fail e => rw [parBody_fail K hC, parBody_fail K hh]; exact .of_not_nil rfl (by simp)
  | chunk size sig off =>
    by_cases hsig : sig = []
    · subst hsig
      rw [parBody_nosig K hC, parBody_nosig K hh]
      exact .of_not_nil rfl (by simp)
    by_cases hz : size = 0
    · subst hz
      rw [parBody_final K hC hsig, parBody_final K hh hsig]
      exact .of_not_nil (finalChunk_out_map (inert_setC cfg c) { st2 with parsedSig := sig }) (finalChunk_not_nil cfg _)
    · rw [parBody_chunk K hC hsig hz, parBody_chunk K hh hsig hz]
      exact cont_setC cfg K c { st2 with parsedSig := sig } size off p

theorem parStep_setC (cfg : Cfg) (K : State → Bytes → Res) (c : Int) (st : State) (p : Bytes) :
    REq (parStep cfg K (setC c st) p) (parStep cfg K st p) := by
  have hC := pendingCheck_map (inert_setC cfg c) st
  cases hchk : pendingCheck cfg st with
  | error e =>
    rw [hchk] at hC
    rw [parStep_error K p hC, parStep_error K p hchk]
    exact .of_not_nil rfl (by simp)
  | ok stc =>
    rw [hchk] at hC
    rw [parStep_ok K p hC, parStep_ok K p hchk]
    exact parBody_setC ..

theorem cont_congr (cfg : Cfg) {K K' : State → Bytes → Res} (sL : State) {size : Int} (off : Int) {p : Bytes}
    (hz : size ≠ 0) (h : ∀ st' p', p'.length < p.length → K st' p' = K' st' p') :
    cont cfg K sL size off p = cont cfg K' sL size off p := by
  fun_cases cont cfg K sL size off p with
  | case1 h => rw [cont, if_pos h]
  | case2 h1 h2 h3 => rw [cont, if_neg h1, if_pos h2, if_pos h3]
  | case3 h1 h2 h3 =>
    rw [cont, if_neg h1, if_pos h2, if_neg h3, h]
    -- strictly shorter because `size ≠ 0` (`hz`)
    simp only [List.length_drop] at h2 ⊢
    omega
  | case4 h1 h2 => rw [cont, if_neg h1, if_neg h2]

theorem parBody_congr (cfg : Cfg) (K K' : State → Bytes → Res) (st : State) (p : Bytes)
    (h : ∀ st' p', p'.length < p.length → K st' p' = K' st' p') : parBody cfg K st p = parBody cfg K' st p := by
  cases hh : parseChunkHeaderBytes cfg st p with
  | mk st2 res =>
  cases res with
  | skip => rw [parBody_skip K hh, parBody_skip K' hh]
  | fail e => rw [parBody_fail K hh, parBody_fail K' hh]
  | chunk size sig off =>
    by_cases hsig : sig = []
    · subst hsig; rw [parBody_nosig K hh, parBody_nosig K' hh]
    by_cases hz : size = 0
    · subst hz; rw [parBody_final K hh hsig, parBody_final K' hh hsig]
    · rw [parBody_chunk K hh hsig hz, parBody_chunk K' hh hsig hz]
      exact cont_congr cfg _ off hz h

theorem par_fuel (cfg : Cfg) : ∀ (f1 f2 : Nat) (st : State) (p : Bytes), p.length < f1 → p.length < f2 →
    parseAndRemove cfg f1 st p = parseAndRemove cfg f2 st p := by
  intro f1
  induction f1 with
  | zero => intro f2 st p h; omega
  | succ f1 ih =>
    intro f2 st p h1 h2
    obtain ⟨f2, rfl⟩ : ∃ f, f2 = f + 1 := ⟨f2 - 1, by omega⟩
    rw [parseAndRemove, parseAndRemove]
    cases hchk : pendingCheck cfg st with
    | error e => rw [parStep_error _ p hchk, parStep_error _ p hchk]
    | ok stc =>
      rw [parStep_ok _ p hchk, parStep_ok _ p hchk]
      exact parBody_congr cfg _ _ stc p (fun st' p' hp => ih f2 st' p' (by omega) (by omega))

theorem cont_out_le (cfg : Cfg) (K : State → Bytes → Res) (sL : State) (size off : Int) (p : Bytes)
    (h : ∀ st' p', (K st' p').2.out.length ≤ p'.length) : (cont cfg K sL size off p).2.out.length ≤ p.length := by
  fun_cases cont cfg K sL size off p with
  | case1 => exact Nat.zero_le _
  | case2 => exact Nat.zero_le _
  | case3 =>
    refine Nat.le_trans (joinRec_out_le _ _ _) (Nat.le_trans (Nat.add_le_add_left (h _ _) _) ?_)
    rw [← List.length_append, List.take_append_drop, List.length_drop]
    exact Nat.sub_le _ _
  | case4 => rw [List.length_drop]; exact Nat.sub_le _ _

theorem par_out_le (cfg : Cfg) : ∀ (f : Nat) (st : State) (p : Bytes), (parseAndRemove cfg f st p).2.out.length ≤ p.length := by
  intro f
  induction f with
  | zero => intro st p; simp [parseAndRemove]
  | succ f ih =>
    intro st p
    rw [parseAndRemove]
    cases hchk : pendingCheck cfg st with
    | error e => rw [parStep_error _ p hchk]; simp
    | ok stc =>
      rw [parStep_ok _ p hchk]
      cases hh : parseChunkHeaderBytes cfg stc p with
      | mk st2 res =>
      cases res with
      | skip => rw [parBody_skip _ hh]; simp
      | fail e => rw [parBody_fail _ hh]; simp
      | chunk size sig off =>
        by_cases hsig : sig = []
        · subst hsig; rw [parBody_nosig _ hh]; simp
        by_cases hz : size = 0
        · subst hz; rw [parBody_final _ hh hsig, finalChunk_out]; simp
        · rw [parBody_chunk _ hh hsig hz]
          exact cont_out_le cfg _ _ size off p ih

/-- `c` bytes of chunk data are still expected, then the next header: what `Read` (`c = chunkDataLeft`) and
`parseAndRemoveChunkInfo` behind a data-chunk header (`c` = the chunk size) have in common -/
def dataPhase (cfg : Cfg) (K : State → Bytes → Res) (st : State) (c : Int) (data : Bytes) : Res :=
  if (data.length : Int) > c then
    prepend (data.take c.toNat) (K (hashWrite cfg { st with chunkDataLeft := 0 } (data.take c.toNat)) (data.drop c.toNat))
  else (hashWrite cfg { st with chunkDataLeft := c - data.length } data, ⟨data, .nil⟩)

theorem cont_eq_dataPhase (cfg : Cfg) {K : State → Bytes → Res} (sL : State) {size off : Int} {p : Bytes}
    (hoff : 0 ≤ off ∧ off ≤ (p.length : Int)) (hsize : 0 ≤ size) (hmax : (p.length : Int) ≤ intMax)
    (hK : ∀ st' p', (K st' p').2.out.length ≤ p'.length) :
    cont cfg K sL size off p = dataPhase cfg K sL size (p.drop off.toNat) := by
  fun_cases cont cfg K sL size off p with
  | case1 h => omega
  | case2 _ _ h => omega
  | case3 _ h2 =>
    rw [dataPhase, if_pos h2, joinRec_eq_prepend]
    have := hK (hashWrite cfg { sL with chunkDataLeft := 0 } ((p.drop off.toNat).take size.toNat))
      ((p.drop off.toNat).drop size.toNat)
    simp only [List.length_drop] at *
    omega
  | case4 _ h2 => rw [dataPhase, if_neg h2]

theorem dataPhase_append (cfg : Cfg) (K : State → Bytes → Res) (st : State) {c : Int} {d : Bytes} (g : Bytes)
    (h : (d.length : Int) ≤ c) :
    dataPhase cfg K st c (d ++ g) = prepend d (dataPhase cfg K (hashWrite cfg st d) (c - d.length) g) := by
  have ht : c.toNat = d.length + (c - d.length).toNat := by omega
  unfold dataPhase
  simp only [List.length_append, Int.natCast_add]
  by_cases hg : (g.length : Int) > c - d.length
  · rw [if_pos (by omega), if_pos hg, prepend_prepend, ht, List.take_length_add_append, List.drop_length_add_append,
      ← hashWrite_hashWrite]
    rfl
  · rw [if_neg (by omega), if_neg hg]
    simp only [prepend, Int.sub_sub]
    exact congrArg (·, _) (hashWrite_hashWrite cfg _ d g).symm

theorem read_REq (cfg : Cfg) (st : State) (g : Bytes) (e : Bool) (cap f : Nat) (h0 : 0 ≤ st.chunkDataLeft)
    (hgt : st.chunkDataLeft < (g.length : Int)) (hf : g.length < f) :
    REq (read cfg st g e cap) (dataPhase cfg (parseAndRemove cfg f) (setE e st) st.chunkDataLeft g) := by
  rw [read_hdr cfg st g e cap h0 hgt, dataPhase, if_pos hgt]
  refine prepend_congr ?_ _
  obtain ⟨f, rfl⟩ : ∃ f', f = f' + 1 := ⟨f - 1, by omega⟩
  rw [par_fuel cfg (g.length + 1) (f + 1) _ _ (by simp only [List.length_drop]; omega) (by simp only [List.length_drop]; omega),
    parseAndRemove]
  exact (parStep_setC cfg _ 0 _ _).symm

theorem tail_read (cfg : Cfg) (st : State) (g : Bytes) (e : Bool) (cap f : Nat) (rest : List (Bytes × Bool)) (acc : Bytes)
    (h0 : 0 ≤ st.chunkDataLeft) (hf : g.length < f) (hrest : e = true → rest = []) :
    tail cfg (read cfg st g e cap) rest acc =
      tail cfg (dataPhase cfg (parseAndRemove cfg f) (setE e st) st.chunkDataLeft g) rest acc := by
  by_cases hgt : st.chunkDataLeft < (g.length : Int)
  · exact tail_congr cfg (read_REq cfg st g e cap f h0 hgt hf) rest acc
  · rw [read_data cfg st g e cap (by omega), dataPhase, if_neg hgt]
    cases e with
    | false => rfl
    | true =>
      rw [hrest rfl]
      exact (runFrom_nil cfg _ (acc ++ g) (by show 0 ≤ st.chunkDataLeft - g.length; omega)).symm

theorem hdr_decided {cfg : Cfg} (e : Bool) {st st2 : State} {q : Bytes} (g : Bytes) {res : HdrRes}
    (hne : st.stash.length ≤ maxHeaderSize → parseHeader cfg st.isFirstHeader (st.stash ++ q) ≠ .error (.rd .eof))
    (hh : parseChunkHeaderBytes cfg st q = (st2, res)) :
    parseChunkHeaderBytes cfg (setE e st) (q ++ g) = (setE e st2, res) ∧ res ≠ .skip ∧
      ∀ size sig off, res = .chunk size sig off → size ≠ 0 → off ≤ (q.length : Int) := by
  rw [hdr_eq] at hh ⊢
  show (if _ < st.stash.length then _
    else hdrOf cfg (setE e st) (q ++ g) (parseHeader cfg st.isFirstHeader (st.stash ++ (q ++ g)))) = _ ∧ _
  split at hh
  · rename_i hl; rw [if_pos hl]; cases hh; exact ⟨rfl, nofun, nofun⟩
  rename_i hl
  have hne := hne (Nat.not_lt.1 hl)
  rw [if_neg hl, ← List.append_assoc]
  generalize hp : parseHeader cfg st.isFirstHeader (st.stash ++ q) = x at hh hne
  revert hp hh hne
  fun_cases hdrOf cfg st q x with
  | case1 => exact fun _ _ hne => absurd rfl hne
  | case2 => exact fun _ _ hne => absurd rfl hne
  | case3 =>
    intro hp hh _
    rw [parseHeader_fwd_err (e := .rd .mismatch) g trivial hp]
    cases hh
    exact ⟨rfl, nofun, nofun⟩
  | case4 e =>
    intro hp hh _
    rw [parseHeader_fwd_err (e := .fail e) g trivial hp]
    cases hh
    exact ⟨rfl, nofun, nofun⟩
  | case5 r rest hz =>
    intro hp hh _
    rw [(parseHeader_ok hp).1.fwd g, hdrOf, if_pos hz]
    cases hh
    exact ⟨by split <;> rfl, nofun, fun _ _ _ h hs => absurd (by cases h; rfl) hs⟩
  | case6 r rest hz =>
    intro hp hh _
    have : ((q ++ g).length : Int) - ((rest ++ g).length : Int) = q.length - rest.length := by
      simp only [List.length_append, Int.natCast_add]; omega
    rw [(parseHeader_ok hp).1.fwd g, hdrOf, if_neg hz, this]
    cases hh
    exact ⟨rfl, nofun, fun _ _ _ h _ => by cases h; omega⟩

theorem cont_bad (cfg : Cfg) (K : State → Bytes → Res) (sL : State) {size off : Int} (p : Bytes)
    (h : off < 0 ∨ size < 0) : (cont cfg K sL size off p).2 = ⟨[], .panic⟩ := by
  fun_cases cont cfg K sL size off p with
  | case1 => rfl
  | case2 => rfl
  | case3 => omega
  | case4 => omega

theorem parBody_decided {cfg : Cfg} (K : State → Bytes → Res) (e : Bool) {st : State} {q : Bytes} (g : Bytes)
    (hne : st.stash.length ≤ maxHeaderSize → parseHeader cfg st.isFirstHeader (st.stash ++ q) ≠ .error (.rd .eof)) :
    ((parBody cfg K (setE e st) (q ++ g)).2 = (parBody cfg K st q).2 ∧ (parBody cfg K st q).2.status ≠ .nil) ∨
    ∃ sL size off, 0 < size ∧ 0 ≤ off ∧ off ≤ (q.length : Int) ∧ sL.isEOF = st.isEOF ∧
      parBody cfg K st q = cont cfg K sL size off q ∧
      parBody cfg K (setE e st) (q ++ g) = cont cfg K (setE e sL) size off (q ++ g) := by
  cases hh : parseChunkHeaderBytes cfg st q with
  | mk st2 res =>
  obtain ⟨hdec, hnoskip, hoffle⟩ := hdr_decided e g hne hh
  cases res with
  | skip => exact absurd rfl hnoskip
  | fail x => rw [parBody_fail _ hh, parBody_fail _ hdec]; exact .inl ⟨rfl, nofun⟩
  | chunk size sig off =>
    by_cases hsig : sig = []
    · subst hsig
      rw [parBody_nosig _ hh, parBody_nosig _ hdec]
      exact .inl ⟨rfl, nofun⟩
    by_cases hz : size = 0
    · subst hz
      rw [parBody_final _ hh hsig, parBody_final _ hdec hsig]
      exact .inl ⟨finalChunk_out_map (inert_setE cfg e) { st2 with parsedSig := sig }, finalChunk_not_nil cfg _⟩
    rw [parBody_chunk _ hh hsig hz, parBody_chunk _ hdec hsig hz]
    by_cases hbad : off < 0 ∨ size < 0
    · -- `p[bufOffset:n]`, `p[:chunkSize]` out of range
      have hb := cont_bad cfg K { st2 with parsedSig := sig } q hbad
      exact .inl ⟨(cont_bad cfg K _ (q ++ g) hbad).trans hb.symm, by rw [hb]; nofun⟩
    · have hE2 : st2.isEOF = st.isEOF := by
        have := hdr_isEOF cfg st q
        rwa [hh] at this
      exact .inr ⟨{ st2 with parsedSig := sig }, size, off, by omega, by omega, hoffle size sig off rfl hz, hE2, rfl, rfl⟩

theorem cont_shift (cfg : Cfg) (K : State → Bytes → Res) (sL : State) (size : Int) {off : Int} (q g : Bytes)
    (h0 : 0 ≤ off) : cont cfg K sL size (off + q.length) (q ++ g) = cont cfg K sL size off g := by
  have hd : (q ++ g).drop (off + q.length).toNat = g.drop off.toNat := by
    rw [show (off + q.length).toNat = q.length + off.toNat by omega, List.drop_length_add_append]
  have hc : (off + (q.length : Int) < 0 ∨ ((q ++ g).length : Int) < off + q.length) ↔ (off < 0 ∨ (g.length : Int) < off) := by
    simp only [List.length_append, Int.natCast_add]; omega
  unfold cont
  simp only [hd, hc]

/-- **stash shift**: bytes that could not be parsed yet may equally well sit in the stash or in
front of the next fragment -/
theorem parBody_stash_shift (cfg : Cfg) (K : State → Bytes → Res) (st : State) (S q g : Bytes)
    (hlen : (S ++ q).length ≤ maxHeaderSize)
    (hp : parseHeader cfg st.isFirstHeader (S ++ q) = .error (.rd .eof)) :
    parBody cfg K { st with stash := S ++ q } g = parBody cfg K { st with stash := S } (q ++ g) := by
  have hl1 : ¬ maxHeaderSize < (S ++ q).length := by omega
  have hl2 : ¬ maxHeaderSize < S.length := by simp only [List.length_append] at hlen; omega
  have h1 := hdr_eq cfg { st with stash := S ++ q } g
  have h2 := hdr_eq cfg { st with stash := S } (q ++ g)
  simp only [if_neg hl1, if_neg hl2, List.append_assoc] at h1 h2
  cases hx : parseHeader cfg st.isFirstHeader (S ++ (q ++ g)) with
  | error pe =>
    rw [hx] at h1 h2
    cases pe with
    | rd x =>
      cases x with
      | eof =>
        simp only [hdrOf, List.append_assoc] at h1 h2
        by_cases he : st.isEOF = true
        · rw [if_pos he] at h1 h2; rw [parBody_fail K h1, parBody_fail K h2]
        · rw [if_neg he] at h1 h2; rw [parBody_skip K h1, parBody_skip K h2]
      | mismatch => rw [parBody_fail K h1, parBody_fail K h2]
    | fail x => rw [parBody_fail K h1, parBody_fail K h2]
  | ok rr =>
    obtain ⟨r, rest⟩ := rr
    rw [hx] at h1 h2
    simp only [hdrOf] at h1 h2
    by_cases hz : r.chunkSize = 0
    · rw [if_pos hz] at h1 h2
      by_cases hsig : r.sig = []
      · rw [hsig] at h1 h2; rw [parBody_nosig K h1, parBody_nosig K h2]
      · rw [parBody_final K h1 hsig, parBody_final K h2 hsig]
    · rw [if_neg hz] at h1 h2
      by_cases hsig : r.sig = []
      · rw [hsig] at h1 h2; rw [parBody_nosig K h1, parBody_nosig K h2]
      · -- the header ends inside `g`
        have hlt := parseHeader_needMore_then_ok hp (List.append_assoc S q g ▸ hx)
        rw [parBody_chunk K h1 hsig hz, parBody_chunk K h2 hsig hz, List.length_append, Int.natCast_add,
          show (q.length : Int) + g.length - rest.length = (g.length : Int) - rest.length + q.length by omega]
        exact (cont_shift cfg K _ _ q g (by omega)).symm

/-- two reads or one, for the data phase, given the same (`IH`) for `parseAndRemoveChunkInfo` on what is left
of `q` behind the chunk data -/
theorem dataPhase_merge (cfg : Cfg) (st : State) (c : Int) (q g : Bytes) (e : Bool) (rest : List (Bytes × Bool))
    (acc : Bytes) (f1 f2 : Nat) (hc : 0 ≤ c) (hf2 : g.length < f2) (hrest : e = true → rest = [])
    (IH : (q.length : Int) > c → ∀ acc',
      tail cfg (parseAndRemove cfg f1 (hashWrite cfg { st with chunkDataLeft := 0 } (q.take c.toNat)) (q.drop c.toNat))
          ((g, e) :: rest) acc' =
        tail cfg (parseAndRemove cfg f2 (setE e (hashWrite cfg { st with chunkDataLeft := 0 } (q.take c.toNat)))
          (q.drop c.toNat ++ g)) rest acc') :
    tail cfg (dataPhase cfg (parseAndRemove cfg f1) st c q) ((g, e) :: rest) acc =
      tail cfg (dataPhase cfg (parseAndRemove cfg f2) (setE e st) c (q ++ g)) rest acc := by
  by_cases hgt : (q.length : Int) > c
  · have h2 : ((q ++ g).length : Int) > c := by simp only [List.length_append, Int.natCast_add]; omega
    unfold dataPhase
    rw [if_pos hgt, if_pos h2, List.take_append_of_le_length (by omega), List.drop_append_of_le_length (by omega),
      tail_prepend, tail_prepend]
    exact IH hgt _
  · -- the chunk goes on behind `q`: the second `Read` is a data phase for what is left of it
    have hL : dataPhase cfg (parseAndRemove cfg f1) st c q =
        (hashWrite cfg { st with chunkDataLeft := c - q.length } q, ⟨q, .nil⟩) := by
      unfold dataPhase; rw [if_neg hgt]
    rw [hL, dataPhase_append cfg _ _ g (by omega), tail_prepend, tail_nil rfl, runFrom_cons,
      tail_read cfg _ g e _ f2 rest _ (by show 0 ≤ c - q.length; omega) hf2 hrest]
    rfl

/-- **Two reads or one**: `q` handed to `parseAndRemoveChunkInfo` and then `g` to the next `Read`
gives the same run as `q ++ g` at once. -/
theorem par_merge (cfg : Cfg) : ∀ (f : Nat) (q : Bytes) (st : State) (g : Bytes) (e : Bool)
    (rest : List (Bytes × Bool)) (acc : Bytes),
    st.isEOF = false → q ≠ [] → g ≠ [] → (e = true → rest = []) → q.length + g.length < f →
    (q.length : Int) + g.length ≤ intMax →
    ((parseAndRemove cfg f st q).2.status = .nil → (parseAndRemove cfg f st q).1.stash.length ≤ maxHeaderSize) →
    tail cfg (parseAndRemove cfg f st q) ((g, e) :: rest) acc =
      tail cfg (parseAndRemove cfg f (setE e st) (q ++ g)) rest acc := by
  intro f
  induction f with
  | zero => intro q st g e rest acc _ _ _ _ hf; omega
  | succ f ih =>
    intro q st g e rest acc hE hqne hgne hrest hf hmax hstash
    have hglen : 0 < g.length := List.length_pos_iff.2 hgne
    have hqlen : 0 < q.length := List.length_pos_iff.2 hqne
    rw [parseAndRemove] at hstash ⊢
    rw [parseAndRemove]
    have hC := pendingCheck_map (inert_setE cfg e) st
    cases hchk : pendingCheck cfg st with
    | error x =>
      rw [hchk] at hC
      rw [parStep_error _ q hchk, parStep_error _ _ hC]
      exact tail_not_nil cfg _ _ _ rfl (by simp)
    | ok stc =>
      rw [hchk] at hC
      rw [parStep_ok _ q hchk] at hstash ⊢
      rw [parStep_ok _ _ hC]
      obtain ⟨hps, _, _, hes⟩ := pendingCheck_fields hchk
      have hEc : stc.isEOF = false := hes.trans hE
      by_cases hnm : stc.stash.length ≤ maxHeaderSize ∧
          parseHeader cfg stc.isFirstHeader (stc.stash ++ q) = .error (.rd .eof)
      · -- the header is still incomplete after `q`: it is stashed, and the next `Read` starts with the stash
        obtain ⟨hl, hnm⟩ := hnm
        rw [parBody_skip _ (hdr_needMore hl hEc hnm)] at hstash ⊢
        have hsl : (stc.stash ++ q).length ≤ maxHeaderSize := hstash rfl
        rw [tail_nil rfl, runFrom_cons,
          read_at_header cfg (st := { ({ stc with stash := stc.stash ++ q } : State) with chunkDataLeft := 0 }) e _ rfl hps hgne,
          parBody_congr cfg _ (parseAndRemove cfg f) _ g (fun st' p' hp => par_fuel cfg _ _ st' p' hp (by omega))]
        simp only [tail_prepend, List.append_nil]
        rw [show setE e { ({ stc with stash := stc.stash ++ q } : State) with chunkDataLeft := 0 } =
          { setC 0 (setE e stc) with stash := stc.stash ++ q } from rfl]
        exact (congrArg (tail cfg · rest acc)
            (parBody_stash_shift cfg (parseAndRemove cfg f) (setC 0 (setE e stc)) stc.stash q g hsl hnm)).trans
          (tail_congr cfg (parBody_setC cfg _ 0 (setE e stc) (q ++ g)) rest acc)
      · -- the stash is beyond its limit, or the header is complete (or definitely bad) within `stash ++ q`
        rcases parBody_decided (parseAndRemove cfg f) e g (fun hl h => hnm ⟨hl, h⟩) with
          ⟨h1, h2⟩ | ⟨sL, size, off, hsize, hoff0, hoff, hE2, h1, h2⟩
        · exact tail_not_nil cfg _ _ _ h1.symm h2
        rw [h1] at hstash ⊢
        rw [h2]
        rw [cont_eq_dataPhase cfg _ ⟨by omega, hoff⟩ (by omega) (by omega) (par_out_le cfg f)] at hstash ⊢
        rw [cont_eq_dataPhase cfg _ ⟨by omega, by simp only [List.length_append, Int.natCast_add]; omega⟩ (by omega)
          (by simp only [List.length_append, Int.natCast_add]; omega) (par_out_le cfg f),
          List.drop_append_of_le_length (by omega)]
        refine dataPhase_merge cfg sL size _ g e rest acc f f (by omega) (by omega) hrest ?_
        intro hgt acc'
        have hdp : dataPhase cfg (parseAndRemove cfg f) sL size (q.drop off.toNat) = _ := if_pos hgt
        rw [hdp, prepend_status, prepend_fst] at hstash
        have hq' : 0 < ((q.drop off.toNat).drop size.toNat).length ∧
            ((q.drop off.toNat).drop size.toNat).length < q.length := by
          simp only [List.length_drop] at hgt ⊢; omega
        exact ih _ _ g e rest acc' (hE2.trans hEc) (List.ne_nil_of_length_pos hq'.1) hgne hrest (by omega) (by omega) hstash

/-- **Two `Read`s or one.**  Delivering `f` and then `g` (io.EOF, if any, with `g`) gives the same
run as delivering `f ++ g`; side condition: if the first `Read` leaves a partial header in the
stash it is at most 1024 bytes long (the reader refuses longer ones). -/
theorem read_merge (cfg : Cfg) (st : State) (f g : Bytes) (e : Bool) (rest : List (Bytes × Bool)) (acc : Bytes)
    (hgne : g ≠ []) (hrest : e = true → rest = []) (hmax : ((f ++ g).length : Int) ≤ intMax)
    (hstash : (ChunkSigned.read cfg st f false f.length).2.status = .nil →
      (ChunkSigned.read cfg st f false f.length).1.stash.length ≤ maxHeaderSize) :
    tail cfg (ChunkSigned.read cfg st f false f.length) ((g, e) :: rest) acc =
      tail cfg (ChunkSigned.read cfg st (f ++ g) e (f ++ g).length) rest acc := by
  by_cases hneg : st.chunkDataLeft < 0
  · exact tail_not_nil cfg _ _ _
      ((read_neg cfg st f false _ hneg).trans (read_neg cfg st (f ++ g) e _ hneg).symm)
      (by rw [read_neg cfg st f false _ hneg]; simp)
  have h0 : 0 ≤ st.chunkDataLeft := by omega
  have hglen := List.length_pos_iff.2 hgne
  rw [tail_read cfg st f false _ (f.length + g.length + 1) _ acc h0 (by omega) nofun,
    tail_read cfg st (f ++ g) e _ (f.length + g.length + 1) rest acc h0 (by simp only [List.length_append]; omega) hrest]
  refine dataPhase_merge cfg (setE false st) _ f g e rest acc _ _ h0 (by omega) hrest ?_
  intro hgt acc'
  -- the side condition on the stash, for what is parsed behind the chunk data
  have hreq := read_REq cfg st f false f.length (f.length + g.length + 1) h0 hgt (by omega)
  rw [show dataPhase cfg _ (setE false st) st.chunkDataLeft f = _ from if_pos hgt] at hreq
  rw [hreq.1, prepend_status] at hstash
  simp only [List.length_append, Int.natCast_add] at hmax
  have hq' : 0 < (f.drop st.chunkDataLeft.toNat).length ∧ (f.drop st.chunkDataLeft.toNat).length ≤ f.length := by
    simp only [List.length_drop]; omega
  exact par_merge cfg _ _ _ g e rest acc' rfl (List.ne_nil_of_length_pos hq'.1) hgne hrest (by omega) (by omega)
    (fun hs => by have h2 := hstash hs; rwa [hreq.2 (hreq.1 ▸ (prepend_status ..).trans hs), prepend_fst] at h2)

/-- the wire bytes of a list of deliveries -/
def flat (ds : List (Bytes × Bool)) : Bytes := (ds.map (·.1)).flatten

/-- did io.EOF come together with the last bytes? -/
def lastFlag (ds : List (Bytes × Bool)) : Bool :=
  match ds.getLast? with
  | some d => d.2
  | none => false

/-- non-empty fragments, io.EOF at most with the last one -/
def Good (ds : List (Bytes × Bool)) : Prop := (∀ d ∈ ds, d.1 ≠ []) ∧ (∀ d ∈ ds.dropLast, d.2 = false)

/-- the 1024-byte limit on a stashed partial header is never exceeded: after the one-shot read of
any proper prefix of the deliveries -/
def StashOK (cfg : Cfg) (st : State) (ds : List (Bytes × Bool)) : Prop :=
  ∀ k, 0 < k → k < ds.length →
    (ChunkSigned.read cfg st (flat (ds.take k)) false (flat (ds.take k)).length).2.status = .nil →
    (ChunkSigned.read cfg st (flat (ds.take k)) false (flat (ds.take k)).length).1.stash.length ≤ maxHeaderSize

theorem flat_cons (x : Bytes) (e : Bool) (ds : List (Bytes × Bool)) : flat ((x, e) :: ds) = x ++ flat ds := rfl

theorem flat_merge2 (f g : Bytes) (b e : Bool) (rest : List (Bytes × Bool)) :
    flat ((f, b) :: (g, e) :: rest) = flat ((f ++ g, e) :: rest) := by
  simp only [flat_cons, List.append_assoc]

theorem lastFlag_merge2 (f g : Bytes) (b e : Bool) (rest : List (Bytes × Bool)) :
    lastFlag ((f, b) :: (g, e) :: rest) = lastFlag ((f ++ g, e) :: rest) := by
  cases rest <;> simp [lastFlag]

theorem Good.merge2 {f g : Bytes} {b e : Bool} {rest : List (Bytes × Bool)} (h : Good ((f, b) :: (g, e) :: rest)) :
    Good ((f ++ g, e) :: rest) ∧ b = false ∧ g ≠ [] ∧ (e = true → rest = []) := by
  have hg := h.1 (g, e) (by simp)
  refine ⟨⟨fun d hd => ?_, fun d hd => ?_⟩, h.2 (f, b) (by simp [List.dropLast]), hg, fun he => ?_⟩
  · rcases List.mem_cons.1 hd with rfl | hd
    · exact fun h0 => hg (List.append_eq_nil_iff.1 h0).2
    · exact h.1 d (by simp [hd])
  · cases rest with
    | nil => simp [List.dropLast] at hd
    | cons r rs =>
      simp only [List.dropLast, List.mem_cons] at hd
      rcases hd with rfl | hd
      · exact h.2 (g, e) (by simp [List.dropLast])
      · exact h.2 d (by simp [List.dropLast, hd])
  · cases rest with
    | nil => rfl
    | cons r rs => exact absurd (h.2 (g, e) (by simp [List.dropLast])) (by simp [he])

theorem StashOK.merge2 {cfg : Cfg} {st : State} {f g : Bytes} {b e : Bool} {rest : List (Bytes × Bool)}
    (h : StashOK cfg st ((f, b) :: (g, e) :: rest)) :
    StashOK cfg st ((f ++ g, e) :: rest) ∧
      ((ChunkSigned.read cfg st f false f.length).2.status = .nil →
        (ChunkSigned.read cfg st f false f.length).1.stash.length ≤ maxHeaderSize) := by
  refine ⟨fun k hk0 hkl => ?_, ?_⟩
  · obtain ⟨k, rfl⟩ : ∃ j, k = j + 1 := ⟨k - 1, by omega⟩
    have := h (k + 2) (by omega) (by simp only [List.length_cons] at hkl ⊢; omega)
    rwa [List.take_succ_cons, List.take_succ_cons, flat_merge2] at this
  · have := h 1 (by omega) (by simp)
    rwa [List.take_succ_cons, List.take_zero, flat_cons, show flat [] = [] from rfl, List.append_nil] at this

/-- **Fragmentation independence of the signed reader** (arbitrary bytes, from an arbitrary state):
a run over any list of deliveries equals the run that hands the same bytes over in one `Read`. -/
theorem run_merge (cfg : Cfg) : ∀ (n : Nat) (ds : List (Bytes × Bool)), ds.length ≤ n → ∀ (st : State) (acc : Bytes),
    ds ≠ [] → Good ds → ((flat ds).length : Int) ≤ intMax → StashOK cfg st ds →
    runFrom cfg st ds acc = runFrom cfg st [(flat ds, lastFlag ds)] acc := by
  intro n
  induction n with
  | zero => intro ds h st acc hne; exact absurd (List.length_eq_zero_iff.1 (Nat.le_zero.1 h)) hne
  | succ n ih =>
    intro ds hlen st acc hne hgood hmax hst
    match ds, hne with
    | [(f, e)], _ => simp [flat, lastFlag]
    | (f, e1) :: (g, e2) :: rest, _ =>
      obtain ⟨hgood', rfl, hgne, hrest⟩ := hgood.merge2
      obtain ⟨hst', h1⟩ := hst.merge2
      rw [flat_merge2] at hmax
      have hmax2 : ((f ++ g).length : Int) ≤ intMax := by
        rw [flat_cons, List.length_append] at hmax; omega
      rw [runFrom_cons, read_merge cfg st f g e2 rest acc hgne hrest hmax2 h1, ← runFrom_cons,
        ih ((f ++ g, e2) :: rest) (Nat.le_of_succ_le_succ hlen) st acc nofun hgood' hmax hst', flat_merge2, lastFlag_merge2]

end Vgw.Lemmas.ChunkMerge
