import Vgw.Lemmas.CrashFS
/-
  Lemmas.CrashView — what the API view of a key reads: the object's own entry and (sidecar store) the
  entries below its sidecar meta directory.  The view of a key is a function of the file system
  restricted to that set (`DependsOn`); hence steps that are silent on it cannot change the view.
-/
namespace Vgw.Model.Crash

/-- the paths the view of `key` depends on -/
def reads (cfg : Cfg) (key : Path) (q : Path) : Bool :=
  q == objPath cfg key || (sideOf (objPath cfg key)).isPrefixOf q

theorem isPrefixOf_append_self (a b : Path) : a.isPrefixOf (a ++ b) = true :=
  List.isPrefixOf_iff_prefix.mpr (List.prefix_append a b)

theorem reads_obj (cfg : Cfg) (key : Path) : reads cfg key (objPath cfg key) = true := by simp [reads]

theorem reads_side (cfg : Cfg) (key : Path) (a : String) : reads cfg key (sideOf (objPath cfg key) ++ [a]) = true := by
  simp [reads, isPrefixOf_append_self]

theorem readAttr_xattr {cfg : Cfg} (hs : cfg.sidecar = false) (fs : FS) (obj : Path) (a : String) :
    readAttr cfg fs obj a = (fs.get obj).bind (fun n => aget n.attrs a) := by
  simp [readAttr, hs]

section
variable (P : Path → Bool) (cfg : Cfg) (fs : FS) (obj : Path)
variable (hobj : P obj = true) (hside : ∀ q : Path, (sideOf obj).isPrefixOf q = true → P q = true)
include hobj hside

theorem readAttr_restrict (a : String) : readAttr cfg (fs.restrict P) obj a = readAttr cfg fs obj a := by
  unfold readAttr
  rw [FS.get_restrict P fs hobj, FS.get_restrict P fs (hside _ (isPrefixOf_append_self _ _))]

theorem listAttrs_restrict : listAttrs cfg (fs.restrict P) obj = listAttrs cfg fs obj := by
  unfold listAttrs
  rw [FS.get_restrict P fs hobj, FS.children_restrict P fs (sideOf obj)]
  intro q hq
  simp only [Bool.and_eq_true] at hq
  exact hside q hq.2

end

theorem side_reads {cfg : Cfg} {key q : Path} (hq : (sideOf (objPath cfg key)).isPrefixOf q = true) : reads cfg key q = true := by
  simp [reads, hq]

/-- What the API shows of a key — and the pieces it is made of — depends only on the paths `reads` names. -/
theorem get_reads (cfg : Cfg) (key : Path) : DependsOn (fun fs => fs.get (objPath cfg key)) (reads cfg key) :=
  fun fs => FS.get_restrict _ fs (reads_obj cfg key)

theorem readAttr_reads (cfg : Cfg) (key : Path) (a : String) :
    DependsOn (fun fs => readAttr cfg fs (objPath cfg key) a) (reads cfg key) :=
  fun fs => readAttr_restrict _ cfg fs _ (reads_obj cfg key) (fun _ => side_reads) a

theorem view_reads (cfg : Cfg) (key : Path) : DependsOn (fun fs => view cfg fs key) (reads cfg key) := by
  intro fs
  simp only [view, readAttr_restrict (reads cfg key) cfg fs (objPath cfg key) (reads_obj cfg key) (fun _ => side_reads),
    listAttrs_restrict (reads cfg key) cfg fs (objPath cfg key) (reads_obj cfg key) (fun _ => side_reads),
    FS.get_restrict (reads cfg key) fs (reads_obj cfg key)]

theorem listed_reads (cfg : Cfg) (key : Path) : DependsOn (fun fs => listed cfg fs key) (reads cfg key) := by
  intro fs
  simp only [listed, readAttr_restrict (reads cfg key) cfg fs (objPath cfg key) (reads_obj cfg key) (fun _ => side_reads),
    FS.get_restrict (reads cfg key) fs (reads_obj cfg key)]

theorem listed_crash (cfg : Cfg) (fs : FS) (key : Path) : listed cfg (crash fs) key = listed cfg fs key :=
  (listed_reads cfg key).crash fs

/-- xattr store: the view of a key whose name holds a file, read off the node -/
theorem view_xattr {cfg : Cfg} (hs : cfg.sidecar = false) {fs : FS} {key : Path} {d : Val} {a : Attrs}
    (h : fs.get (objPath cfg key) = some (.file d a)) (hm : cfg.verDir = false ∨ aget a "delete-marker" = none) :
    view cfg fs key = some
      { data := d
        etag := (aget a "etag").filter (· != "")
        ctype := (aget a "content-type").filter (· != "")
        umeta := (a.map (·.1)).filter isMetaAttr |>.filterMap (fun k => (aget a k).map (fun v => (k, v)))
        vid := if cfg.verDir then some ((aget a "version-id").getD "null") else none
        tags := aget a "X-Amz-Tagging"
        hold := (aget a "object-legal-hold").filter (· != "") } := by
  have hattr : ∀ k, readAttr cfg fs (objPath cfg key) k = aget a k := fun k => by rw [readAttr_xattr hs, h]; rfl
  have hmark : (cfg.verDir && (aget a "delete-marker").isSome) = false := by
    rcases hm with hm | hm <;> simp [hm]
  simp only [view, h, hattr, hmark, Bool.false_eq_true, if_false, listAttrs, hs, Node.attrs]

end Vgw.Model.Crash
