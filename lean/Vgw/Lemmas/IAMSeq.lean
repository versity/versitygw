/-
  Serialisation along schedules: `SInv` is kept by every event, the log only grows (`run_log`);
  all invariants together (`FullInv`).  Calls that run one at a time: their steps as a schedule, on
  which the side condition of the write-through revisions is only about the call's own create.
-/
import Vgw.Lemmas.IAMSerial
import Vgw.Lemmas.IAMAfterAck
namespace Vgw.Model.IAM
open Vgw
open Vgw.Model.Gw (Account Role)

theorem act_log (v : Variant) (cfg : Cfg) (σ : State) (a : Act) :
    ∃ l, (act v cfg σ a).log = σ.log ++ l ∧ ∀ e ∈ l, a = .step e.id := by
  cases a with
  | step i =>
    refine stepAt_ind (P := fun σ' => ∃ l, σ'.log = σ.log ++ l ∧ ∀ e ∈ l, Act.step i = .step e.id)
      ⟨[], by simp, fun _ he => nomatch he⟩ fun _ hs => ?_
    rcases hs.log with h | ⟨r, h⟩
    · exact ⟨[], by simp [State.setCall, h], fun _ he => nomatch he⟩
    · exact ⟨_, h, by simp⟩
  | tick n => exact ⟨[], by simp [Model.IAM.act], fun _ he => nomatch he⟩
  | gc => exact ⟨[], by simp [Model.IAM.act], fun _ he => nomatch he⟩
  | invoke op => exact ⟨[], by simp [Model.IAM.act], fun _ he => nomatch he⟩

/-- the log only grows, by decisions of calls that the schedule lets step -/
theorem run_log (v : Variant) (cfg : Cfg) (σ : State) (acts : List Act) :
    ∃ l, (run v cfg σ acts).log = σ.log ++ l ∧ ∀ e ∈ l, Act.step e.id ∈ acts :=
  run_induction (P := fun σ' => ∃ l, σ'.log = σ.log ++ l ∧ ∀ e ∈ l, Act.step e.id ∈ acts) acts ⟨[], by simp, fun _ he => nomatch he⟩
    fun σ' a ha ⟨l, h1, h2⟩ => by
      obtain ⟨l', h1', h2'⟩ := act_log v cfg σ' a
      refine ⟨l ++ l', by rw [h1', h1, List.append_assoc], fun e he => ?_⟩
      rcases List.mem_append.mp he with he | he
      · exact h2 e he
      · exact h2' e he ▸ ha

theorem SInv.act {v : Variant} {cfg : Cfg} {s0 : Store} {σ : State} (hW : Wf cfg σ) (hT : TInv cfg σ)
    (h : SInv cfg s0 σ) (a : Act) : SInv cfg s0 (act v cfg σ a) := by
  cases a with
  | step i => exact stepAt_ind h fun hi hs => h.step hW (hT i _ hi) hi hs
  | tick n => exact ⟨h.rep, h.ids, h.muts, h.own⟩
  | gc => exact ⟨h.rep, h.ids, h.muts, h.own⟩
  | invoke op =>
    refine ⟨h.rep, fun e he => Nat.lt_of_lt_of_le (h.ids e he) (by simp [Model.IAM.act]), h.muts, forall_invoke ?_ h.own⟩
    refine h.log_new.trans ?_
    rw [ownLog]
    split <;> rfl

theorem SInv.init (cfg : Cfg) (s : Store) (now : Nat) : SInv cfg s (Model.IAM.init s now) :=
  ⟨rfl, fun _ he => (nomatch he), fun _ he => (nomatch he),
   fun _ _ hi => (nomatch hi)⟩

/-- everything that holds in every reachable state, with the serialisation log -/
structure FullInv (v : Variant) (cfg : Cfg) (s0 : Store) (σ : State) : Prop where
  inv : Inv v cfg σ
  ser : SInv cfg s0 σ

theorem FullInv.act {v : Variant} {cfg : Cfg} {s0 : Store} {σ : State} (h : FullInv v cfg s0 σ) (a : Act)
    (hq : NeedsQuiet v → QuietStep v σ a) : FullInv v cfg s0 (act v cfg σ a) :=
  ⟨h.inv.act a hq, h.ser.act h.inv.wf h.inv.typ a⟩

theorem FullInv.run {v : Variant} {cfg : Cfg} {s0 : Store} {σ : State} (h : FullInv v cfg s0 σ) (acts : List Act)
    (hq : NeedsQuiet v → QuietRun v cfg σ acts) : FullInv v cfg s0 (run v cfg σ acts) :=
  run_induction_quiet acts hq h fun _ a _ hq h => h.act a hq

theorem FullInv.init (v : Variant) (cfg : Cfg) (s : Store) (now : Nat) (hr : s.find cfg.root.access = none) :
    FullInv v cfg s (Model.IAM.init s now) :=
  ⟨Inv.init v cfg s now hr, SInv.init cfg s now⟩

theorem stepN_eq_run (v : Variant) (cfg : Cfg) (σ : State) (n m : Nat) :
    stepN v cfg σ n m = run v cfg σ (List.replicate m (.step n)) := by
  induction m generalizing σ with
  | zero => rfl
  | succ m ih => simp only [stepN, List.replicate_succ, Model.IAM.run, List.foldl_cons, Model.IAM.act]; exact ih _

/-- the schedule of a call that runs alone -/
def aloneRun (σ : State) (op : Op) : List Act := .invoke op :: List.replicate fuel (.step σ.calls.length)

theorem call_eq_run (v : Variant) (cfg : Cfg) (σ : State) (op : Op) :
    call v cfg σ op = run v cfg σ (aloneRun σ op) := by
  simp only [Model.IAM.call, aloneRun, stepN_eq_run, Model.IAM.run, List.foldl_cons]

theorem step_of_mem_aloneRun {σ : State} {op : Op} {j : Nat} (h : Act.step j ∈ aloneRun σ op) : j = σ.calls.length := by
  rcases List.mem_cons.mp h with h | h
  · cases h
  · exact Act.step.inj (List.eq_of_mem_replicate h)

theorem invoke_of_mem_aloneRun {σ : State} {op op' : Op} (h : Act.invoke op' ∈ aloneRun σ op) : op' = op := by
  rcases List.mem_cons.mp h with h | h
  · exact Act.invoke.inj h
  · cases List.eq_of_mem_replicate h

theorem quietStep_alone {v : Variant} {σ : State} {n : Nat} (hA : Alone σ n)
    (hc : ∀ (c : Call) a, σ.calls[n]? = some c → c.op = .create a → entryOf v a = a) :
    QuietStep v σ (.step n) := by
  intro c b' hi hpc
  refine ⟨fun j cj hjn hj _ => ?_, fun a ha => hc c a hi ha⟩
  obtain ⟨r, hr⟩ := isDone_iff.mp (hA j cj hjn hj)
  rw [hr]
  exact ⟨rfl, nofun⟩

theorem quietRun_alone {v : Variant} {cfg : Cfg} (m : Nat) : ∀ {σ : State} {n : Nat} {c : Call}, Alone σ n →
    σ.calls[n]? = some c → (∀ a, c.op = .create a → entryOf v a = a) →
    QuietRun v cfg σ (List.replicate m (.step n)) := by
  induction m with
  | zero => intro σ n c _ _ _; trivial
  | succ m ih =>
    intro σ n c hA hi hc
    refine ⟨quietStep_alone hA (fun c' a hi' ha => by rw [hi] at hi'; cases hi'; exact hc a ha), ?_⟩
    obtain ⟨pc', hpc'⟩ := stepAt_op v cfg σ n c hi
    exact ih (hA.stepAt (v := v) (cfg := cfg)) hpc' hc

end Vgw.Model.IAM
