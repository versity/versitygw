import Vgw.Lemmas.CrashPlan
/-
  Lemmas.CrashOwned — every plan writes only paths owned by the request's key (every configuration, every file
  system).  What a plan does before and after it touches the key's own name writes in the set `Prep`, which is
  owned for every key and, with the xattr store, invisible to the key's own view (Lemmas.CrashAtomic).
-/
namespace Vgw.Model.Crash

theorem objPath_eq (cfg : Cfg) (key : Path) : objPath cfg key = "R" :: cfg.bucket :: key := rfl
theorem tmpDir_eq (cfg : Cfg) : tmpDir cfg = ["R", cfg.bucket, ".sgwtmp"] := rfl
theorem sideOf_obj (cfg : Cfg) (key : Path) : sideOf (objPath cfg key) = "S" :: cfg.bucket :: (key ++ ["meta"]) := rfl

theorem prefix_snoc_split {l q m : Path} {x : String} (hm : l ++ [x] <+: m) (h : q <+: m) : l ++ [x] <+: q ∨ q <+: l := by
  rcases List.prefix_or_prefix_of_prefix hm h with h1 | h1
  · exact Or.inl h1
  · exact (List.prefix_concat_iff.mp h1).imp_left fun he => by rw [he]; exact List.prefix_refl _

/-- temp area, bucket directory, directories above the object, versioning area; sidecar store: also the temp area's
    mirror and the key's attribute directory with what is above it -/
def Prep (cfg : Cfg) (key : Path) (q : Path) : Prop :=
  tmpDir cfg <+: q ∨ q <+: bucketPath cfg ∨ q <+: (objPath cfg key).dropLast ∨ VerArea cfg q ∨
  (cfg.sidecar = true ∧ (["S", cfg.bucket, ".sgwtmp"] <+: q ∨ q <+: sideOf (objPath cfg key) ∨ sideOf (objPath cfg key) <+: q))

section
variable {cfg : Cfg} {key q : Path}

theorem Prep.owned (h : Prep cfg key q) : Owned cfg key q := by
  rcases h with h | h | h | h | ⟨_, h⟩
  · exact Or.inl h
  · exact Or.inr (Or.inr (Or.inr (Or.inr (Or.inl (h.trans (List.prefix_append _ _))))))
  · exact Or.inr (Or.inr (Or.inr (Or.inr (Or.inl (h.trans (List.dropLast_prefix _))))))
  · exact Or.inr (h.imp_right fun h => Or.inl h.2)
  · exact Or.inr (Or.inr (Or.inr (h.imp_right Or.inr)))

theorem Prep.tmp (h : tmpDir cfg <+: q) : Prep cfg key q := Or.inl h

theorem Prep.above_tmp {dir : Path} (hd : tmpDir cfg <+: dir) (h : q <+: dir) : Prep cfg key q :=
  (prefix_snoc_split (l := bucketPath cfg) hd h).elim Or.inl fun h => Or.inr (Or.inl h)

theorem Prep.ver (h : VerArea cfg q) : Prep cfg key q := Or.inr (Or.inr (Or.inr (Or.inl h)))

theorem Prep.side_tmp {rest : Path} (hs : cfg.sidecar = true) (h : Near (sideOf (tmpDir cfg ++ rest)) q) : Prep cfg key q := by
  have hp : ["S", cfg.bucket] ++ [".sgwtmp"] <+: sideOf (tmpDir cfg ++ rest) := ⟨rest ++ ["meta"], rfl⟩
  refine Or.inr (Or.inr (Or.inr (Or.inr ⟨hs, ?_⟩)))
  rcases h with ⟨h, _⟩ | h
  · exact (prefix_snoc_split hp h).imp_right fun h => Or.inl (h.trans ⟨key ++ ["meta"], rfl⟩)
  · exact Or.inl (hp.trans h)

/-- `Prep` for PutObject / CompleteMultipartUpload, of the temp area only the temp file `r` and the directory itself: fine
    enough to see that the replace link's name stays free; `Prep` is what is compared with `Owned` and `Aside` -/
def PrepPut (cfg : Cfg) (key : Path) (r : Ref) (q : Path) : Prop :=
  (q <+: tmpDir cfg ∧ 2 ≤ q.length) ∨ q ∈ r.paths ∨ q <+: (objPath cfg key).dropLast ∨ VerArea cfg q ∨
  (cfg.sidecar = true ∧ Near (sideOf (objPath cfg key)) q)

theorem PrepPut.prep {r : Ref} (hr : ∀ q ∈ r.paths, tmpDir cfg <+: q) (h : PrepPut cfg key r q) : Prep cfg key q := by
  rcases h with h | h | h | h | ⟨hs, h⟩
  · exact Prep.above_tmp (List.prefix_refl _) h.1
  · exact Prep.tmp (hr q h)
  · exact Or.inr (Or.inr (Or.inl h))
  · exact Prep.ver h
  · exact Or.inr (Or.inr (Or.inr (Or.inr ⟨hs, Or.inr (h.imp_left And.left)⟩)))

theorem PrepPut.ref {r : Ref} (h : q ∈ r.paths) : PrepPut cfg key r q := Or.inr (Or.inl h)
theorem PrepPut.above {r : Ref} (h : q <+: (objPath cfg key).dropLast) : PrepPut cfg key r q := Or.inr (Or.inr (Or.inl h))
theorem PrepPut.ver {r : Ref} (h : VerArea cfg q) : PrepPut cfg key r q := Or.inr (Or.inr (Or.inr (Or.inl h)))
theorem PrepPut.side {r : Ref} (hs : cfg.sidecar = true) (h : Near (sideOf (objPath cfg key)) q) : PrepPut cfg key r q :=
  Or.inr (Or.inr (Or.inr (Or.inr ⟨hs, h⟩)))

end

variable (cfg : Cfg) (rq : Req) (key : Path)

theorem tmpDir_prefix_mpObjDir (k : Path) : tmpDir cfg <+: mpObjDir cfg k := List.prefix_append _ _
theorem tmpDir_prefix_mpDir (k : Path) (u : String) : tmpDir cfg <+: mpDir cfg k u :=
  (tmpDir_prefix_mpObjDir cfg k).trans (List.prefix_append _ _)

theorem prep_prePut (fs : FS) (sp : PutSpec) :
    WritesIn (PrepPut cfg key (openTmp cfg fs 0 (tmpDir cfg) sp.falloc rq.tmp).1) (prePut cfg rq fs key sp) := by
  fun_cases prePut cfg rq fs key sp
  refine .append (.append (.append (.append (.append (.append ?_ (.ref rfl fun _ => .ref)) ?_) ?_) ?_) ?_) ?_
  · exact (modifies_openTmp cfg fs 0 _ _ _).1.mono fun _ h => h.elim Or.inl .ref
  · exact .ite ((ver_archive cfg rq _ key).1.mono fun _ => .ver) (.nil _)
  · exact (modifies_mkdirAll _ _).1.mono fun _ h => .above h.1
  · exact .ite ((ver_deleteNullVersion cfg _ key).1.mono fun _ => .ver) (.nil _)
  · exact (modifies_deleteAttrs cfg _ _).1.mono fun _ h => .side h.1 (Or.inr h.2)
  · exact (modifies_storeAttrs cfg _ _ _ _).1.mono fun _ h => h.elim .ref fun h => .side h.1 h.2

theorem prep_preComplete (fs : FS) :
    WritesIn (PrepPut cfg rq.key (openTmp cfg fs 0 (tmpDir cfg) false rq.tmp).1) (preComplete cfg rq fs) := by
  fun_cases preComplete cfg rq fs
  refine .append (.append (.append (.append (.append ?_ (.ref rfl fun _ => .ref)) ?_) ?_) ?_) ?_
  · exact (modifies_openTmp cfg fs 0 _ _ _).1.mono fun _ h => h.elim Or.inl .ref
  · exact (modifies_mkdirAll _ _).1.mono fun _ h => .above h.1
  · exact .ite ((ver_archive cfg rq _ rq.key).1.mono fun _ => .ver) (.nil _)
  · exact (modifies_deleteAttrs cfg _ _).1.mono fun _ h => .side h.1 (Or.inr h.2)
  · exact (modifies_storeAttrs cfg _ _ _ _).1.mono fun _ h => h.elim .ref fun h => .side h.1 h.2

theorem prep_planUploadPart (fs : FS) : WritesIn (Prep cfg rq.key) (planUploadPart cfg rq fs) := by
  have hod := tmpDir_prefix_mpObjDir cfg rq.key
  have hpart : tmpDir cfg <+: mpDir cfg rq.key rq.upload ++ [rq.partNo] :=
    (tmpDir_prefix_mpDir cfg rq.key rq.upload).trans (List.prefix_append _ _)
  have hr := fun q h => Prep.tmp (key := rq.key) (hod.trans (ref_openTmp cfg fs 0 (mpObjDir cfg rq.key) rq.falloc rq.tmp q h))
  fun_cases planUploadPart cfg rq fs
  · exact .nil _
  · refine .append ?_ ((modifies_publishC cfg _ _ _ _ _).1.mono fun q h => ?_)
    · show WritesIn _ (preUploadPart cfg rq fs)
      fun_cases preUploadPart cfg rq fs
      refine .append (.append ?_ (.ref rfl hr)) ?_
      · exact (modifies_openTmp cfg fs 0 _ _ _).1.mono fun q h => h.elim (fun h => .above_tmp hod h.1) (hr q)
      · exact (modifies_storeAttr cfg _ _ _ _ _).1.mono fun q h => h.elim (hr q) fun h =>
          .side_tmp (rest := ["multipart", keyHash rq.key, rq.upload, rq.partNo]) h.1 h.2
    · rcases h with h | h | h | h
      · exact .tmp (h ▸ hpart)
      · exact .above_tmp hpart h.1
      · exact hr q h
      · exact .tmp (h ▸ List.prefix_append _ _)

theorem prep_cleanupUpload (fs : FS) : WritesIn (Prep cfg rq.key) (cleanupUpload cfg rq fs) := by
  unfold cleanupUpload
  have hmp := tmpDir_prefix_mpDir cfg rq.key rq.upload
  exact .append (.append (.unlinks fun _ he => .tmp (hmp.trans (prefix_of_mem_children he))) (.one rfl (.tmp hmp)))
    (.ite (.one rfl (.tmp (tmpDir_prefix_mpObjDir cfg rq.key))) (.nil _))

theorem prep_removeParents (fs : FS) (rel : Path) (fuel : Nat) (hrel : rel <+: key) :
    WritesIn (Prep cfg key) (removeParents cfg fs (bucketPath cfg) rel fuel) := by
  fun_induction removeParents cfg fs (bucketPath cfg) rel fuel
  -- the one branch that removes a parent
  case case4 _ rel _ parent hne _ _ _ ih =>
    have hp : parent <+: key := (List.dropLast_prefix rel).trans hrel
    refine .cons (List.forall_mem_singleton.mpr (Or.inr (Or.inr (Or.inl ?_)))) (ih hp)
    -- `rel` is not empty: its parent is a proper prefix of the key
    refine List.prefix_of_prefix_length_le ((List.prefix_append_right_inj _).mpr hp) (List.dropLast_prefix _) ?_
    have h1 : 0 < rel.length := List.length_pos_iff.mpr fun h0 => hne (by simp [parent, h0])
    show (bucketPath cfg ++ rel.dropLast).length ≤ (bucketPath cfg ++ key).dropLast.length
    rw [List.length_dropLast, List.length_append, List.length_append, List.length_dropLast]
    exact Nat.le_sub_one_of_lt (Nat.add_lt_add_left (Nat.lt_of_lt_of_le (Nat.sub_one_lt (Nat.ne_of_gt h1)) hrel.length_le) _)
  all_goals exact .nil _

theorem owned_prefix_obj {cfg : Cfg} {key q : Path} (h : q <+: objPath cfg key) : Owned cfg key q :=
  Or.inr (Or.inr (Or.inr (Or.inr (Or.inl h))))

theorem owned_below_side {cfg : Cfg} {key q : Path} (h : sideOf (objPath cfg key) <+: q) : Owned cfg key q :=
  Or.inr (Or.inr (Or.inr (Or.inr (Or.inr (Or.inr h)))))

theorem owned_by_name {cfg : Cfg} {key q : Path}
    (h : q ∈ (Ref.path (objPath cfg key)).paths ∨ (cfg.sidecar = true ∧ Near (sideOf (objPath cfg key)) q)) : Owned cfg key q := by
  rcases h with h | ⟨_, h⟩
  · exact owned_prefix_obj (List.mem_singleton.mp h ▸ List.prefix_refl _)
  · exact Or.inr (Or.inr (Or.inr (Or.inr (Or.inr (h.imp_left And.left)))))

theorem owned_publishC (fs : FS) (r : Ref) (hr : ∀ q ∈ r.paths, tmpDir cfg <+: q) (name : String) :
    WritesOwned cfg key (publishC cfg fs r (objPath cfg key) (tmpDir cfg) name) := by
  refine (modifies_publishC cfg fs r _ _ name).1.mono fun q h => ?_
  rcases h with h | h | h | h
  · exact owned_prefix_obj (h ▸ List.prefix_refl _)
  · exact owned_prefix_obj h.1
  · exact Or.inl (hr q h)
  · exact Or.inl (h ▸ List.prefix_append _ _)

theorem owned_deleteNullVersion (fs : FS) : WritesOwned cfg key (deleteNullVersion cfg fs key) :=
  (ver_deleteNullVersion cfg fs key).1.mono fun _ h => (Prep.ver h).owned

theorem owned_preComplete (fs : FS) : WritesOwned cfg rq.key (preComplete cfg rq fs) :=
  (prep_preComplete cfg rq fs).mono fun _ h => (h.prep (ref_openTmp cfg fs 0 _ _ _)).owned

theorem owned_planPutSpec (fs : FS) (sp : PutSpec) : WritesOwned cfg key (planPutSpec cfg rq fs key sp) := by
  have hr := ref_openTmp cfg fs 0 (tmpDir cfg) sp.falloc rq.tmp
  fun_cases planPutSpec cfg rq fs key sp
  · exact WritesIn.nil _
  · exact .append (.append ((prep_prePut cfg rq key fs sp).mono fun _ h => (h.prep hr).owned)
      (owned_publishC cfg key _ _ hr _)) ((modifies_storeAttrs cfg _ _ _ _).1.mono fun _ => owned_by_name)

theorem owned_planCopy (fs : FS) : WritesOwned cfg rq.key (planCopy cfg rq fs) := by
  fun_cases planCopy cfg rq fs
  · exact WritesIn.nil _
  · exact owned_planPutSpec cfg rq rq.key fs _
  · exact WritesIn.nil _

theorem owned_planDelete (fs : FS) : WritesOwned cfg rq.key (planDelete cfg rq fs) := by
  have hstore : ∀ (fs' : FS) (a : String) (v : Val),
      WritesOwned cfg rq.key (storeAttr cfg fs' (.path (objPath cfg rq.key)) (objPath cfg rq.key) a v) :=
    fun fs' a v => (modifies_storeAttr cfg fs' _ _ a v).1.mono fun _ => owned_by_name
  have harch : ∀ (fs' : FS) (c : Prop) [Decidable c], WritesOwned cfg rq.key (if c then archive cfg rq fs' rq.key else []) :=
    fun fs' c _ => .ite ((ver_archive cfg rq fs' rq.key).1.mono fun _ h => (Prep.ver h).owned) (WritesIn.nil _)
  fun_cases planDelete cfg rq fs
  -- empty plans
  case case1 | case2 | case5 => exact WritesIn.nil _
  -- versioning enabled
  case case3 => exact .append (.append (harch _ _) (hstore _ _ _)) (hstore _ _ _)
  -- versioning suspended
  case case4 =>
    refine .append (.append (.append (harch _ _) (hstore _ _ _)) (owned_deleteNullVersion cfg rq.key _)) ?_
    exact (writes_deleteAttr cfg _ _ _).mono fun q h => h.elim (fun h => owned_prefix_obj (h ▸ List.prefix_refl _))
      owned_below_side
  -- unversioned
  case case6 =>
    refine .append (.append (.one rfl (owned_prefix_obj (List.prefix_refl _))) ?_) ?_
    · exact (modifies_deleteAttrs cfg _ _).1.mono fun _ h => owned_below_side h.2
    · exact (prep_removeParents cfg rq.key _ _ _ (List.prefix_refl _)).mono fun _ => Prep.owned

theorem owned_planComplete (fs : FS) : WritesOwned cfg rq.key (planComplete cfg rq fs) := by
  have hr := ref_openTmp cfg fs 0 (tmpDir cfg) false rq.tmp
  fun_cases planComplete cfg rq fs
  · exact WritesIn.nil _
  · exact WritesIn.nil _
  · exact .append (.append (owned_preComplete cfg rq fs) (owned_publishC cfg rq.key _ _ hr _))
      ((prep_cleanupUpload cfg rq _).mono fun _ => Prep.owned)

theorem owned_plan (fs : FS) : WritesOwned cfg rq.key (plan cfg rq fs) := by
  fun_cases plan cfg rq fs
  · exact owned_planPutSpec cfg rq rq.key fs _
  · exact owned_planCopy cfg rq fs
  · exact owned_planDelete cfg rq fs
  · exact (prep_planUploadPart cfg rq fs).mono fun _ => Prep.owned
  · exact owned_planComplete cfg rq fs

end Vgw.Model.Crash
