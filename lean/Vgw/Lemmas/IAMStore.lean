/-
  Lemmas about the finite maps of Model.IAM (`Store`, `Items`), `mutate`, and their reading as
  the plain map of Spec.IAM.
-/
import Vgw.Model.IAM
import Vgw.Spec.IAM
import Vgw.Lemmas.ListFind
namespace Vgw.Model.IAM
open Vgw
open Vgw.Model.Gw (Account Role)

theorem Store.find_some_access {s : Store} {k : Bytes} {a : Account} (h : s.find k = some a) : a.access = k :=
  (find?_key_some (key := Account.access) h).2

theorem Store.find_del (s : Store) (k k' : Bytes) : (s.del k).find k' = if k' = k then none else s.find k' := by
  split
  · rename_i h
    exact find?_filter_of_not s fun a ha => by rw [eq_of_beq ha, h]; simp
  · rename_i h
    exact find?_filter_of_imp s fun a ha => by rw [eq_of_beq ha]; simpa using h

theorem Store.find_put (s : Store) (a : Account) (k : Bytes) :
    (s.put a).find k = if k = a.access then some a else s.find k := by
  rw [Store.put, Store.find, List.find?_cons]
  by_cases h : k = a.access
  · simp [h]
  · have ha : (a.access == k) = false := by simpa using Ne.symm h
    rw [if_neg h, ← (Store.find_del s a.access k).trans (if_neg h), ha]
    rfl

theorem updateAcc_access (a : Account) (p : Props) : (updateAcc a p).access = a.access := by
  unfold updateAcc
  cases p.secret <;> cases p.gid <;> cases p.uid <;> rfl

theorem updateAcc_idem (a : Account) (p : Props) : updateAcc (updateAcc a p) p = updateAcc a p := by
  unfold updateAcc
  cases p.secret <;> cases p.gid <;> cases p.uid <;> rfl

theorem updateAcc_eq_applyProps (a : Account) (p : Props) : updateAcc a p = Spec.IAM.applyProps a p := by
  unfold updateAcc Spec.IAM.applyProps
  cases p.secret <;> cases p.gid <;> cases p.uid <;> rfl

theorem mutate_frame {b b' : Store} {op : Op} (h : mutate b op = .ok b') {k : Bytes} (hk : k ≠ op.key) :
    b'.find k = b.find k := by
  cases op with
  | create a =>
    simp only [mutate] at h
    split at h <;> cases h
    exact (Store.find_put ..).trans (if_neg hk)
  | update k' p =>
    simp only [mutate] at h
    split at h <;> cases h
    rename_i acc hacc
    exact (Store.find_put ..).trans (if_neg (by rw [updateAcc_access, Store.find_some_access hacc]; exact hk))
  | delete k' => cases h; exact (Store.find_del ..).trans (if_neg hk)
  | get _ => cases h; rfl
  | list => cases h; rfl

theorem mutate_create_ok {b b' : Store} {a : Account} (h : mutate b (.create a) = .ok b') :
    b.find a.access = none ∧ b'.find a.access = some a := by
  simp only [mutate] at h
  split at h <;> cases h
  rename_i hn
  exact ⟨by simpa using hn, (Store.find_put ..).trans (if_pos rfl)⟩

theorem mutate_update_ok {b b' : Store} {k : Bytes} {p : Props} (h : mutate b (.update k p) = .ok b') :
    ∃ acc, b.find k = some acc ∧ b'.find k = some (updateAcc acc p) := by
  simp only [mutate] at h
  split at h <;> cases h
  rename_i acc hacc
  exact ⟨acc, hacc, (Store.find_put ..).trans (if_pos (by rw [updateAcc_access, Store.find_some_access hacc]))⟩

theorem mutate_delete_ok {b b' : Store} {k : Bytes} (h : mutate b (.delete k) = .ok b') : b'.find k = none := by
  cases h; exact (Store.find_del ..).trans (if_pos rfl)

/-- a key that is absent stays absent unless the mutation is a create of that key -/
theorem mutate_absent {b b' : Store} {op : Op} (h : mutate b op = .ok b') {k : Bytes}
    (hk : b.find k = none) (hc : ∀ a, op = .create a → a.access ≠ k) : b'.find k = none := by
  by_cases hkey : k = op.key
  · cases op with
    | create a => exact absurd hkey.symm (hc a rfl)
    | update k' p =>
      obtain ⟨acc, hacc, _⟩ := mutate_update_ok h
      simp only [Op.key] at hkey; subst hkey; rw [hk] at hacc; cases hacc
    | delete k' => simp only [Op.key] at hkey; subst hkey; exact mutate_delete_ok h
    | get _ => simp only [mutate] at h; cases h; exact hk
    | list => simp only [mutate] at h; cases h; exact hk
  · rw [mutate_frame h hkey]; exact hk

/-- abstraction function: the file image as the map of Spec.IAM -/
def abs (s : Store) : Spec.IAM.Accts := fun k => s.find k

/-- what IAMServiceInternal.GetUserAccount answers on the image `s` -/
def look (cfg : Cfg) (s : Store) (k : Bytes) : Option Account :=
  if k = cfg.root.access then some cfg.root else s.find k

theorem look_root (cfg : Cfg) (s : Store) {k : Bytes} (h : k = cfg.root.access) : look cfg s k = some cfg.root :=
  if_pos h

theorem look_nonroot (cfg : Cfg) (s : Store) {k : Bytes} (h : k ≠ cfg.root.access) : look cfg s k = s.find k :=
  if_neg h

theorem look_of_find {cfg : Cfg} {s : Store} {k : Bytes} {x : Account}
    (hr : s.find cfg.root.access = none) (h : s.find k = some x) : look cfg s k = some x :=
  (look_nonroot cfg s fun e => by rw [e, hr] at h; cases h).trans h

theorem look_mutate (cfg : Cfg) {b b' : Store} {op : Op} (h : mutate b op = .ok b') {k : Bytes} (hk : k ≠ op.key) :
    look cfg b' k = look cfg b k := by
  rw [look, look, mutate_frame h hk]

theorem look_eq_spec (cfg : Cfg) (s : Store) (k : Bytes) : look cfg s k = Spec.IAM.lookup cfg.root (abs s) k := rfl

/-- `mutate`, preceded by CreateAccount's refusal of the root key: one call of the service on the
image -/
def mutateR (cfg : Cfg) (b : Store) (op : Op) : Except Res Store :=
  match op with
  | .create a => if a.access = cfg.root.access then .error .userExists else mutate b op
  | _ => mutate b op

theorem abs_eq_ofList (s : Store) : abs s = Spec.IAM.Accts.ofList s := by
  funext k
  simp only [abs, Store.find, Spec.IAM.Accts.ofList]
  congr 1; funext a
  exact Bool.eq_iff_iff.mpr (by simp)

theorem abs_put (s : Store) (a : Account) : abs (s.put a) = (abs s).set a.access a :=
  funext (Store.find_put s a)

theorem abs_del (s : Store) (k : Bytes) : abs (s.del k) = (abs s).erase k :=
  funext (Store.find_del s k)

/-- the service's mutations are the map's mutations -/
theorem mutateR_spec (cfg : Cfg) (b : Store) (op : Op) (hm : op.isMut = true) :
    match mutateR cfg b op with
    | .ok b' => Spec.IAM.apply cfg.root (abs b) op = (abs b', .ok)
    | .error e => Spec.IAM.apply cfg.root (abs b) op = (abs b, e) := by
  cases op with
  | create a =>
    simp only [mutateR, mutate, Spec.IAM.apply, abs]
    by_cases hr : a.access = cfg.root.access
    · simp [hr]
    · by_cases hf : (b.find a.access).isSome = true
      · simp [hr, hf]
      · simp only [hr, hf, if_false, false_or]; rw [← abs_put]; rfl
  | update k p =>
    simp only [mutateR, mutate, Spec.IAM.apply, abs]
    cases hf : b.find k with
    | none => simp
    | some acc =>
      have := abs_put b (updateAcc acc p)
      rw [updateAcc_access, Store.find_some_access hf] at this
      simp only [← updateAcc_eq_applyProps, ← this]
  | delete k => simp only [mutateR, mutate, Spec.IAM.apply]; rw [abs_del]
  | get _ => cases hm
  | list => cases hm

theorem Items.mem_del {it : Items} {k : Bytes} {e : Entry} : e ∈ it.del k ↔ e ∈ it ∧ e.key ≠ k := by
  simp [Items.del, List.mem_filter]

theorem Items.mem_set {it : Items} {k : Bytes} {v : Account} {x : Nat} {e : Entry} :
    e ∈ it.set k v x ↔ e = ⟨k, v, x⟩ ∨ (e ∈ it ∧ e.key ≠ k) := by
  simp [Items.set, Items.mem_del]

theorem Items.mem_gc {it : Items} {now : Nat} {e : Entry} (h : e ∈ it.gc now) : e ∈ it :=
  (List.mem_filter.mp h).1

theorem Items.mem_update {it : Items} {k : Bytes} {p : Props} {x : Nat} {e : Entry} (h : e ∈ it.update k p x) :
    (e ∈ it ∧ e.key ≠ k) ∨ ∃ e0 ∈ it, e0.key = k ∧ e = ⟨k, updateAcc e0.val p, x⟩ := by
  simp only [Items.update, List.mem_map] at h
  obtain ⟨e0, he0, rfl⟩ := h
  by_cases hk : e0.key = k
  · right; exact ⟨e0, he0, hk, by simp [hk]⟩
  · left; simp [hk, he0]

/-- a cache hit returns the value of some entry of that key -/
theorem Items.get_some {it : Items} {now : Nat} {k : Bytes} {a : Account} (h : it.get now k = some a) :
    ∃ e ∈ it, e.key = k ∧ e.val = a := by
  simp only [Items.get] at h
  split at h
  · rename_i e he
    split at h
    · cases h
      exact ⟨e, (find?_key_some (key := Entry.key) he).1, (find?_key_some (key := Entry.key) he).2, rfl⟩
    · cases h
  · cases h

end Vgw.Model.IAM
