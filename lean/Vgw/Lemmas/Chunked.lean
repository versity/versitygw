/-
  Helper lemmas for C12: hex chunk sizes (`Spec.Chunked.IsHex`) under `strconv.ParseInt`.
-/
import Vgw.Lemmas.Encoding
import Vgw.Spec.Chunked
import Vgw.Model.ChunkSigned
import Vgw.Model.ChunkUnsigned
namespace Vgw
open Vgw.Spec.Chunked

/-- 2^63 − 1 under its three names: `math.MaxInt64` of strconv, `math.MaxInt` of the signed reader, the
bound of the specification -/
theorem int64Max_eq_chunkBound : int64Max = (chunkBound : Int) := rfl
theorem intMax_eq_chunkBound : Model.ChunkSigned.intMax = (chunkBound : Int) := rfl

theorem isHex_all {h : Bytes} {n : Nat} (hh : IsHex h n) : ∀ c ∈ h, isHexDigit c = true := by
  unfold IsHex parseHexDigits at hh
  cases h with
  | nil => simp at hh
  | cons b bs => exact hexDigitsVal_all _ _ _ hh

theorem isHex_ne_nil {h : Bytes} {n : Nat} (hh : IsHex h n) : h ≠ [] := by
  intro e; subst e; simp [IsHex, parseHexDigits] at hh

theorem isHex_not_mem {h : Bytes} {n : Nat} (hh : IsHex h n) (c : UInt8) (hc : isHexDigit c = false) : c ∉ h := by
  intro hm
  have := isHex_all hh c hm
  simp [hc] at this

theorem parseIntHex64_of_isHex {h : Bytes} {n : Nat} (hh : IsHex h n) (hn : n ≤ chunkBound) :
    parseIntHex64 h = some (n : Int) := by
  cases h with
  | nil => simp [IsHex, parseHexDigits] at hh
  | cons b bs =>
    have h43 : b ≠ 43 := by
      intro e; subst e
      exact isHex_not_mem hh 43 (by decide) (by simp)
    have h45 : b ≠ 45 := by
      intro e; subst e
      exact isHex_not_mem hh 45 (by decide) (by simp)
    unfold IsHex at hh
    unfold parseIntHex64
    simp only [h43, h45, if_false, hh]
    have : (n : Int) ≤ int64Max := int64Max_eq_chunkBound ▸ Int.ofNat_le.2 hn
    simp [this]

end Vgw
