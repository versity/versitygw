/-
  One step of one request of the repaired code, described by what it may do to the bucket directory, the
  published entries and the request's acknowledgement; the race invariant is read off this description.
-/
import Vgw.Model.BucketRace
namespace Vgw.Model.BucketRace

/-- What a step of request `r` may do: leave bucket and entries alone; do anything to a bucket that is missing
or has no entry, acknowledging nothing (rmdir, mkdir); publish `k` and acknowledge the upload of `k`. -/
def Effect (fs : FS) (r : Req) (p : FS × Req) : Prop :=
  (p.1.exists_ = fs.exists_ ∧ p.1.entries = fs.entries ∧ (p.2 = r ∨ ackKey p.2 = none)) ∨
  ((fs.exists_ = false ∨ fs.entries = []) ∧ ackKey p.2 = none) ∨
  ∃ k, ackKey p.2 = some k ∧ p.1.exists_ = true ∧ p.1.entries = k :: fs.entries.filter (· ≠ k)

theorem effect_ite {fs : FS} {r : Req} {c : Prop} [Decidable c] {p q : FS × Req}
    (hp : c → Effect fs r p) (hq : ¬c → Effect fs r q) : Effect fs r (if c then p else q) := by
  by_cases h : c
  · rw [if_pos h]; exact hp h
  · rw [if_neg h]; exact hq h

theorem effect_quiet {fs fs' : FS} {r r' : Req} (he : fs'.exists_ = fs.exists_)
    (hn : fs'.entries = fs.entries) (ha : ackKey r' = none) : Effect fs r (fs', r') :=
  Or.inl ⟨he, hn, Or.inr ha⟩

theorem stepReq_repaired_effect (fs : FS) (r : Req) : Effect fs r (stepReq .repaired fs r) := by
  unfold stepReq
  -- one bullet per clause of `stepReq`, in its order
  split
  · exact effect_ite (fun _ => effect_quiet rfl rfl rfl) fun _ =>
      effect_ite (fun _ => effect_quiet rfl rfl rfl) fun _ => effect_quiet rfl rfl rfl
  · exact effect_quiet rfl rfl rfl
  · -- rmdir succeeds on an empty bucket only
    refine effect_ite (fun _ => effect_quiet rfl rfl rfl) fun _ =>
      effect_ite (fun _ => effect_quiet rfl rfl rfl) fun he => ?_
    rw [Bool.or_eq_true, not_or, decide_eq_true_eq, Decidable.not_not] at he
    exact Or.inr (Or.inl ⟨Or.inr he.1, rfl⟩)
  · exact effect_ite (fun _ => effect_quiet rfl rfl rfl) fun _ => effect_quiet rfl rfl rfl
  · exact effect_ite (fun _ => effect_quiet rfl rfl rfl) fun _ => effect_quiet rfl rfl rfl
  · rename_i k
    exact effect_ite (fun he => Or.inr (Or.inr ⟨k, rfl, he, rfl⟩)) fun _ => effect_quiet rfl rfl rfl
  · exact effect_ite (fun _ => effect_quiet rfl rfl rfl) fun he =>
      Or.inr (Or.inl ⟨Or.inl (Bool.eq_false_iff.mpr he), rfl⟩)
  · exact Or.inl ⟨rfl, rfl, Or.inl rfl⟩

end Vgw.Model.BucketRace
