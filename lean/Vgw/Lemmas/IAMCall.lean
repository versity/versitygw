/-
  `call_spec`: a call that runs alone, from a state in which every call has returned, answers what
  the plain map answers and leaves the committed image as the map prescribes.
-/
import Vgw.Lemmas.IAMSeq
namespace Vgw.Model.IAM
open Vgw
open Vgw.Model.Gw (Account Role)

/-- what a listing holds in its hands while the image is `s` -/
def ListPc (s : Store) : PC → Prop
  | .lGot s' => s' = s
  | .done r => r = .accts (sortAccts s)
  | _ => True

structure Listing (cfg : Cfg) (s : Store) (n : Nat) (σ : State) : Prop where
  wf : Wf cfg σ
  typ : TInv cfg σ
  cm : σ.committed = s
  pc : ∀ c, σ.calls[n]? = some c → c.op = .list ∧ ListPc s c.pc

theorem Listing.stepAt {v : Variant} {cfg : Cfg} {s : Store} {n : Nat} {σ : State} (h : Listing cfg s n σ) :
    Listing cfg s n (stepAt v cfg σ n) := by
  refine stepAt_ind h fun {op pc σ₁ pc'} hi hs => ?_
  obtain ⟨rfl, hl⟩ := h.pc _ hi
  have hT := h.typ n _ hi
  have hc := h.wf.l.calls n _ hi
  obtain ⟨hW', hT'⟩ : Wf cfg (σ₁.setCall n ⟨.list, pc'⟩) ∧ TInv cfg (σ₁.setCall n ⟨.list, pc'⟩) :=
    ⟨h.wf.step hi hs, forall_setCall hs.calls (PcT.step hs hT) fun j cj _ => h.typ j cj⟩
  refine ⟨hW', hT', ?_, fun c hc' => ?_⟩
  · rcases hs.committed with he | rfl
    · exact he.trans h.cm
    · cases (hT.1 (.inl rfl)).1
  · rw [getElem?_setCall_self _ hs.calls hi] at hc'
    cases hc'
    refine ⟨rfl, ?_⟩
    cases hs
    case listRead s' hs' => exact (h.wf.l.read_committed (hc.r.mp rfl) hs').trans h.cm
    case listDone => exact hl ▸ rfl
    -- the other steps that return are not steps of a listing
    case hit hop _ _ | refuse hop _ => cases hop
    case unlockFailed => cases (hT.1 (.inl rfl)).1
    case cache => cases (hT.1 (.inr rfl)).1
    case getNone | store | drop => obtain ⟨k, hk⟩ := hT.2.2 rfl; cases hk
    all_goals trivial

/-- the abstract effect and answer of one call (listings: the answer is the sorted image) -/
def CallSpec (cfg : Cfg) (s : Store) (op : Op) (s' : Store) (r : Res) : Prop :=
  match op with
  | .list => s' = s ∧ r = .accts (sortAccts s)
  | _ => Spec.IAM.apply cfg.root (abs s) op = (abs s', r)

theorem call_replay {v : Variant} {cfg : Cfg} {s0 : Store} {σ : State} (hF : FullInv v cfg s0 σ) {op : Op} {r : Res}
    (hF' : FullInv v cfg s0 (call v cfg σ op))
    (hres : (call v cfg σ op).calls[σ.calls.length]? = some ⟨op, .done r⟩) :
    replay cfg σ.committed (ownLog σ.calls.length ⟨op, .done r⟩) = some (call v cfg σ op).committed := by
  obtain ⟨l, hl1, hl2⟩ := run_log v cfg σ (aloneRun σ op)
  rw [← call_eq_run] at hl1
  -- what the call appended is what the log holds under its index
  have hown := hF'.ser.own σ.calls.length _ hres
  have hold : List.filter (fun e => e.id == σ.calls.length) σ.log = [] :=
    List.filter_eq_nil_iff.mpr fun e he => by simpa using Nat.ne_of_lt (hF.ser.ids e he)
  have hnew : List.filter (fun e => e.id == σ.calls.length) l = l :=
    List.filter_eq_self.mpr fun e he => by simp [step_of_mem_aloneRun (hl2 e he)]
  rw [hl1, List.filter_append, hold, hnew, List.nil_append] at hown
  have hrep := hF'.ser.rep
  rwa [hl1, replay_append, hF.ser.rep, Option.bind_some, hown] at hrep

theorem call_spec {v : Variant} {cfg : Cfg} {s0 : Store} {σ : State} (hF : FullInv v cfg s0 σ) (hQ : Quiescent σ)
    (op : Op) (hc : NeedsQuiet v → ∀ a, op = .create a → entryOf v a = a) :
    ∃ r, (call v cfg σ op).result σ.calls.length = some r ∧
      CallSpec cfg σ.committed op (call v cfg σ op).committed r ∧
      FullInv v cfg s0 (call v cfg σ op) ∧ Quiescent (call v cfg σ op) := by
  obtain ⟨r, hres, hQ', _, _⟩ := call_quiescent (v := v) hF.inv.wf hQ op
  have hrun := call_eq_run v cfg σ op
  have hn := getElem?_invoke v cfg σ op
  have hquiet : NeedsQuiet v → QuietRun v cfg σ (aloneRun σ op) :=
    fun hq => ⟨trivial, quietRun_alone fuel (alone_invoke hQ op) hn (hc hq)⟩
  have hF' : FullInv v cfg s0 (call v cfg σ op) := by rw [hrun]; exact hF.run _ hquiet
  refine ⟨r, by simp [State.result, hres], ?_, hF', hQ'⟩
  have hrep := call_replay hF hF' hres
  cases op with
  | create a => exact apply_of_replay (e := ⟨_, .create a, r⟩) rfl hrep
  | update k p => exact apply_of_replay (e := ⟨_, .update k p, r⟩) rfl hrep
  | delete k => exact apply_of_replay (e := ⟨_, .delete k, r⟩) rfl hrep
  | get k =>
    have hcm : σ.committed = (call v cfg σ (.get k)).committed := Option.some.inj hrep
    have hA := (After.start (k := k) hF.inv fun j c hj _ _ => hQ j c hj).run _ hquiet
      fun op' hmem hm => by cases invoke_of_mem_aloneRun hmem; cases hm
    rw [← hrun] at hA
    have : r = resOf (look cfg σ.committed k) := hA.newok σ.calls.length _ hres (Nat.le_refl _) rfl
    simp only [CallSpec, Spec.IAM.apply, ← hcm, ← look_eq_spec, this]
    cases look cfg σ.committed k <;> rfl
  | list =>
    have hL : Listing cfg σ.committed σ.calls.length (act v cfg σ (.invoke .list)) :=
      ⟨hF.inv.wf.act _, hF.inv.typ.act _, rfl, fun c hc => by rw [hn] at hc; cases hc; exact ⟨rfl, trivial⟩⟩
    exact ⟨(Option.some.inj hrep).symm, ((stepN_ind (v := v) _ fuel hL fun _ h => h.stepAt).pc _ hres).2⟩

end Vgw.Model.IAM
