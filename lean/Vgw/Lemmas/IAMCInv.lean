/-
  The cache discipline of each revision as one predicate (`CInv`), along schedules; the side
  condition of the write-through revisions as a predicate on schedules (`QuietRun`).
-/
import Vgw.Lemmas.IAMCacheI
import Vgw.Lemmas.IAMCacheW
namespace Vgw.Model.IAM
open Vgw
open Vgw.Model.Gw (Account Role)

structure CInvOff (cfg : Cfg) (σ : State) : Prop where
  rootFree : σ.committed.find cfg.root.access = none
  empty : σ.items = []

theorem CInvOff.step {v : Variant} {cfg : Cfg} {σ σ₁ : State} {i : Nat} {op : Op} {pc pc' : PC} (hv : v.cache = false)
    (hW : Wf cfg σ) (hT : PcT cfg ⟨op, pc⟩) (h : CInvOff cfg σ) (hi : σ.calls[i]? = some ⟨op, pc⟩)
    (hs : Step v cfg σ i op pc σ₁ pc') : CInvOff cfg (σ₁.setCall i ⟨op, pc'⟩) := by
  refine ⟨?_, (hs.items_off hv).trans h.empty⟩
  rcases hs.committed with he | rfl
  · exact he ▸ h.rootFree
  · exact mutate_absent (hW.l.calls i _ hi).pc.1 h.rootFree (hT.1 (.inl rfl)).2

theorem CInvOff.act {v : Variant} {cfg : Cfg} {σ : State} (hv : v.cache = false) (hW : Wf cfg σ) (hT : TInv cfg σ)
    (h : CInvOff cfg σ) (a : Act) : CInvOff cfg (act v cfg σ a) := by
  cases a with
  | step i => exact stepAt_ind h fun hi hs => h.step hv hW (hT i _ hi) hi hs
  | tick n => exact ⟨h.rootFree, h.empty⟩
  | gc => exact ⟨h.rootFree, by simp [Model.IAM.act, h.empty, Items.gc]⟩
  | invoke op => exact ⟨h.rootFree, h.empty⟩

/-- the cache discipline of the revision -/
def CInv (v : Variant) (cfg : Cfg) (σ : State) : Prop :=
  if v.cache = true then (if v.invalidate = true then CInvI cfg σ else CInvW v cfg σ) else CInvOff cfg σ

theorem CInv.rootFree {v : Variant} {cfg : Cfg} {σ : State} (h : CInv v cfg σ) : σ.committed.find cfg.root.access = none := by
  unfold CInv at h
  split at h
  · split at h
    · exact h.rootFree
    · exact h.rootFree
  · exact h.rootFree

/-- side condition of one event of a schedule (only renames matter, and only for write-through) -/
def QuietStep (v : Variant) (σ : State) : Act → Prop
  | .step i => ∀ (c : Call) (b' : Store), σ.calls[i]? = some c → c.pc = .mTemp b' → QuietAt v σ i c
  | _ => True

def QuietRun (v : Variant) (cfg : Cfg) : State → List Act → Prop
  | _, [] => True
  | σ, a :: rest => QuietStep v σ a ∧ QuietRun v cfg (act v cfg σ a) rest

/-- the side condition is needed by the write-through revisions only -/
def NeedsQuiet (v : Variant) : Prop := v.cache = true ∧ v.invalidate = false

theorem CInv.act {v : Variant} {cfg : Cfg} {σ : State} (hW : Wf cfg σ) (hT : TInv cfg σ) (h : CInv v cfg σ)
    (a : Act) (hq : NeedsQuiet v → QuietStep v σ a) : CInv v cfg (act v cfg σ a) := by
  unfold CInv at h ⊢
  by_cases hvc : v.cache = true
  · rw [if_pos hvc] at h ⊢
    by_cases hvi : v.invalidate = true
    · rw [if_pos hvi] at h ⊢
      exact h.act hvc hvi hW hT a
    · rw [if_neg hvi] at h ⊢
      have hvi := Bool.eq_false_iff.mpr hvi
      exact h.act hvc hvi hW hT a fun i e => by subst e; exact hq ⟨hvc, hvi⟩
  · rw [if_neg hvc] at h ⊢
    exact h.act (Bool.eq_false_iff.mpr hvc) hW hT a

theorem CInv.init (v : Variant) (cfg : Cfg) (s : Store) (now : Nat) (hr : s.find cfg.root.access = none) :
    CInv v cfg (Model.IAM.init s now) := by
  have hnp : ∀ k, ¬ Pending (Model.IAM.init s now).calls k := by
    rintro k ⟨j, c, hj, _, _⟩; exact nomatch hj
  unfold CInv
  split
  · split
    · exact ⟨hr, fun _ he => (nomatch he), fun _ _ _ _ hi => (nomatch hi),
        fun _ _ hi => (nomatch hi)⟩
    · exact ⟨hr, fun _ _ _ he => (nomatch he), fun _ _ hj => (nomatch hj),
        fun _ _ _ _ hi => (nomatch hi)⟩
  · exact ⟨hr, rfl⟩

theorem run_induction_quiet {v : Variant} {cfg : Cfg} {P : State → Prop} {σ : State} (acts : List Act)
    (hq : NeedsQuiet v → QuietRun v cfg σ acts) (h : P σ)
    (hact : ∀ σ a, a ∈ acts → (NeedsQuiet v → QuietStep v σ a) → P σ → P (act v cfg σ a)) : P (run v cfg σ acts) := by
  induction acts generalizing σ with
  | nil => exact h
  | cons a rest ih =>
    exact ih (fun hn => (hq hn).2) (hact σ a (List.mem_cons_self ..) (fun hn => (hq hn).1) h)
      (fun σ b hb => hact σ b (List.mem_cons_of_mem _ hb))

/-- everything that holds in every reachable state -/
structure Inv (v : Variant) (cfg : Cfg) (σ : State) : Prop where
  wf : Wf cfg σ
  typ : TInv cfg σ
  cache : CInv v cfg σ

theorem Inv.act {v : Variant} {cfg : Cfg} {σ : State} (h : Inv v cfg σ) (a : Act)
    (hq : NeedsQuiet v → QuietStep v σ a) : Inv v cfg (act v cfg σ a) :=
  ⟨h.wf.act a, h.typ.act a, h.cache.act h.wf h.typ a hq⟩

theorem Inv.run {v : Variant} {cfg : Cfg} {σ : State} (h : Inv v cfg σ) (acts : List Act)
    (hq : NeedsQuiet v → QuietRun v cfg σ acts) : Inv v cfg (run v cfg σ acts) :=
  run_induction_quiet acts hq h fun _ a _ hq h => h.act a hq

theorem Inv.init (v : Variant) (cfg : Cfg) (s : Store) (now : Nat) (hr : s.find cfg.root.access = none) :
    Inv v cfg (Model.IAM.init s now) :=
  ⟨Wf.init cfg s now, TInv.init cfg s now, CInv.init v cfg s now hr⟩

theorem quietRun_append {v : Variant} {cfg : Cfg} {σ : State} {a b : List Act} :
    QuietRun v cfg σ (a ++ b) ↔ QuietRun v cfg σ a ∧ QuietRun v cfg (run v cfg σ a) b := by
  induction a generalizing σ with
  | nil => simp [QuietRun, Model.IAM.run]
  | cons x rest ih =>
    simp only [List.cons_append, QuietRun, ih, Model.IAM.run, List.foldl_cons]
    exact and_assoc.symm

end Vgw.Model.IAM
