/-
  Locality of the header parser of Model.ChunkSigned: what `parseCore` answers depends only on the
  bytes it consumes — which makes the signed reader independent of how the stream is cut into reads.
-/
import Vgw.Lemmas.Chunked
namespace Vgw.Lemmas.ChunkParse
open Vgw Vgw.Model Vgw.Model.ChunkSigned

theorem readUntil_fwd {d : UInt8} {X a r : Bytes} (g : Bytes) (h : readUntil d X = some (a, r)) :
    readUntil d (X ++ g) = some (a, r ++ g) := by
  obtain ⟨rfl, hn⟩ := readUntil_eq_some.1 h
  exact readUntil_eq_some.2 ⟨by simp, hn⟩

theorem readAndSkip_fwd {lit X r : Bytes} (g : Bytes) (h : readAndSkip lit X = .ok r) :
    readAndSkip lit (X ++ g) = .ok (r ++ g) :=
  readAndSkip_eq_ok.2 (by rw [readAndSkip_eq_ok.1 h, List.append_assoc])

theorem readUntil_fwd' (d : UInt8) (X g : Bytes) (h : (readUntil d X).isSome) :
    readUntil d (X ++ g) = (readUntil d X).map fun ar => (ar.1, ar.2 ++ g) := by
  obtain ⟨⟨a, r⟩, hr⟩ := Option.isSome_iff_exists.1 h
  rw [readUntil_fwd g hr, hr]
  rfl

theorem readAndSkip_fwd' (lit X g : Bytes) (h : (readAndSkip lit X).toOption.isSome) :
    readAndSkip lit (X ++ g) = (readAndSkip lit X).map (· ++ g) := by
  cases hr : readAndSkip lit X with
  | error e => simp [hr, Except.toOption] at h
  | ok r => rw [readAndSkip_fwd g hr]; rfl

/-- `p` answers `a` on `X` after consuming exactly the bytes in front of `rest`, and the answer is
the same whatever follows them -/
def Consumes {α : Type} (p : Bytes → Except PErr (α × Bytes)) (X : Bytes) (a : α) (rest : Bytes) : Prop :=
  ∃ C, X = C ++ rest ∧ ∀ Y, p (C ++ Y) = .ok (a, Y)

theorem Consumes.fwd {α : Type} {p : Bytes → Except PErr (α × Bytes)} {X : Bytes} {a : α} {rest : Bytes}
    (h : Consumes p X a rest) (g : Bytes) : p (X ++ g) = .ok (a, rest ++ g) := by
  obtain ⟨C, rfl, hC⟩ := h
  rw [List.append_assoc, hC]

theorem parseTrailer_consumes {cfg : Cfg} {sig X : Bytes} {r : Parsed} {rest : Bytes}
    (h : parseTrailer cfg sig X = .ok (r, rest)) : Consumes (parseTrailer cfg sig) X r rest ∧ r.chunkSize = 0 := by
  revert h
  fun_cases parseTrailer cfg sig X with
  | case10 c1 h1 name c2 h2 hname csum c3 h3 hvalid c4 h4 pre c5 h5 hpre tsig c6 h6 =>   -- the one arm that succeeds
    intro h
    cases h
    obtain rfl := readAndSkip_eq_ok.1 h1
    obtain ⟨rfl, n2⟩ := readUntil_eq_some.1 h2
    obtain ⟨rfl, n3⟩ := readUntil_eq_some.1 h3
    obtain rfl := readAndSkip_eq_ok.1 h4
    obtain ⟨rfl, n5⟩ := readUntil_eq_some.1 h5
    obtain ⟨rfl, n6⟩ := readUntil_eq_some.1 h6
    refine ⟨⟨[10] ++ (name ++ 58 :: (csum ++ 13 :: ([10] ++ (pre ++ 58 :: (tsig ++ [13]))))), by simp, fun Y => ?_⟩, rfl⟩
    rw [parseTrailer]
    simp only [List.append_assoc, List.cons_append, List.nil_append, readAndSkip, ↓reduceIte,
      readUntil_append 58 name _ n2, readUntil_append 13 csum _ n3, readUntil_append 58 pre _ n5,
      readUntil_append 13 tsig _ n6, if_neg hname, if_neg hvalid, if_neg hpre]
  | _ => nofun

/-- a parse error other than "ran out of input" -/
def Definite : PErr → Prop
  | .rd .eof => False
  | _ => True

theorem parseTrailer_fwd_err {cfg : Cfg} {sig X : Bytes} {e : PErr} (g : Bytes) (hd : Definite e)
    (h : parseTrailer cfg sig X = .error e) : parseTrailer cfg sig (X ++ g) = .error e := by
  -- an `.eof` error is not `Definite`; every other error was decided on a prefix, which `_fwd` preserves
  revert h
  fun_cases parseTrailer cfg sig X with
  | case1 x h1 =>   -- the LF in front of the trailer line
    intro h; cases h
    cases x with
    | eof => exact hd.elim
    | mismatch => rw [parseTrailer, readAndSkip_mismatch_append g h1]
  | case2 => intro h; cases h; exact hd.elim   -- no ':' behind the trailer name
  | case3 _ h1 _ _ h2 hname =>   -- another trailer name
    intro h; cases h
    rw [parseTrailer]; simp only [readAndSkip_fwd g h1, readUntil_fwd g h2, if_pos hname]
  | case4 => intro h; cases h; exact hd.elim   -- no CR behind the checksum
  | case5 _ h1 _ _ h2 hname _ _ h3 hvalid =>   -- invalid checksum
    intro h; cases h
    rw [parseTrailer]
    simp only [readAndSkip_fwd g h1, readUntil_fwd g h2, if_neg hname, readUntil_fwd g h3, if_pos hvalid]
  | case6 _ h1 _ _ h2 hname _ _ h3 hvalid x h4 =>   -- the LF behind the checksum
    intro h; cases h
    cases x with
    | eof => exact hd.elim
    | mismatch =>
      rw [parseTrailer]
      simp only [readAndSkip_fwd g h1, readUntil_fwd g h2, if_neg hname, readUntil_fwd g h3, if_neg hvalid,
        readAndSkip_mismatch_append g h4]
  | case7 => intro h; cases h; exact hd.elim   -- no ':' behind x-amz-trailer-signature
  | case8 _ h1 _ _ h2 hname _ _ h3 hvalid _ h4 _ _ h5 hpre =>   -- not x-amz-trailer-signature
    intro h; cases h
    rw [parseTrailer]
    simp only [readAndSkip_fwd g h1, readUntil_fwd g h2, if_neg hname, readUntil_fwd g h3, if_neg hvalid,
      readAndSkip_fwd g h4, readUntil_fwd g h5, if_pos hpre]
  | case9 => intro h; cases h; exact hd.elim   -- no CR behind the trailer signature
  | case10 => nofun   -- success

/-- `parseCore` behind the signature line -/
def afterSig (cfg : Cfg) (size : Int) (sig cur : Bytes) : Except PErr (Parsed × Bytes) :=
  if size = 0 then
    if cfg.trailer ≠ [] then
      match parseTrailer cfg sig cur with
      | .error e => .error e
      | .ok (r, cur) =>
        match readAndSkip [10, 13, 10] cur with
        | .error e => .error (.rd e)
        | .ok cur => .ok (r, cur)
    else
      match readAndSkip [10, 13, 10] cur with
      | .error e => .error (.rd e)
      | .ok cur => .ok ({ chunkSize := 0, sig := sig }, cur)
  else
    match readAndSkip [10] cur with
    | .error e => .error (.rd e)
    | .ok cur => .ok ({ chunkSize := size, sig := sig }, cur)

theorem parseCore_front (cfg : Cfg) {a sig : Bytes} {v : Int} (T : Bytes) (n1 : (59 : UInt8) ∉ a)
    (hv : parseIntHex64 a = some v) (h0 : 0 ≤ v) (n4 : (13 : UInt8) ∉ sig) :
    parseCore cfg (a ++ 59 :: (chunkSignatureLit ++ (sig ++ 13 :: T))) = afterSig cfg v sig T := by
  unfold parseCore afterSig
  simp only [readUntil_append 59 a _ n1, hv, if_neg (Int.not_lt.2 h0), readAndSkip_append,
    readUntil_append 13 sig _ n4]
  rfl

theorem parseCore_front_cases (cfg : Cfg) (X : Bytes) :
    (∃ a v sig T, X = a ++ 59 :: (chunkSignatureLit ++ (sig ++ 13 :: T)) ∧ (59 : UInt8) ∉ a ∧
      parseIntHex64 a = some v ∧ 0 ≤ v ∧ (13 : UInt8) ∉ sig) ∨
    (∃ e, parseCore cfg X = .error e ∧ (Definite e → ∀ g, parseCore cfg (X ++ g) = .error e)) := by
  cases h1 : readUntil 59 X with
  | none => exact .inr ⟨.rd .eof, by simp [parseCore, h1], fun hd => hd.elim⟩
  | some ac =>
  obtain ⟨a, c1⟩ := ac
  have f1 := fun g => readUntil_fwd g h1
  cases h2 : parseIntHex64 a with
  | none => exact .inr ⟨.fail .invalidFormat, by simp [parseCore, h1, h2], fun _ g => by simp [parseCore, f1, h2]⟩
  | some v =>
  by_cases hneg : v < 0
  · exact .inr ⟨.fail .invalidFormat, by simp [parseCore, h1, h2, hneg], fun _ g => by simp [parseCore, f1, h2, hneg]⟩
  cases h3 : readAndSkip chunkSignatureLit c1 with
  | error x =>
    cases x with
    | eof => exact .inr ⟨.rd .eof, by simp [parseCore, h1, h2, hneg, h3], fun hd => hd.elim⟩
    | mismatch =>
      exact .inr ⟨.rd .mismatch, by simp [parseCore, h1, h2, hneg, h3],
        fun _ g => by simp [parseCore, f1, h2, hneg, readAndSkip_mismatch_append g h3]⟩
  | ok c3 =>
  cases h4 : readUntil 13 c3 with
  | none => exact .inr ⟨.rd .eof, by simp [parseCore, h1, h2, hneg, h3, h4], fun hd => hd.elim⟩
  | some st =>
  obtain ⟨sig, T⟩ := st
  obtain ⟨rfl, n1⟩ := readUntil_eq_some.1 h1
  obtain rfl := readAndSkip_eq_ok.1 h3
  obtain ⟨rfl, n4⟩ := readUntil_eq_some.1 h4
  exact .inl ⟨a, v, sig, T, rfl, n1, h2, Int.not_lt.1 hneg, n4⟩

theorem afterSig_consumes {cfg : Cfg} {v : Int} {sig T : Bytes} {r : Parsed} {rest : Bytes}
    (h : afterSig cfg v sig T = .ok (r, rest)) :
    Consumes (afterSig cfg v sig) T r rest ∧ r.chunkSize = v ∧ (v ≠ 0 → T = 10 :: rest) := by
  revert h
  fun_cases afterSig cfg v sig T with
  | case3 hz htr r5 c5 h5 c6 h6 =>   -- final chunk with trailer
    intro h; cases h
    obtain ⟨⟨C5, rfl, hC5⟩, hr5⟩ := parseTrailer_consumes h5
    obtain rfl := readAndSkip_eq_ok.1 h6
    refine ⟨⟨C5 ++ [10, 13, 10], by simp, fun Y => ?_⟩, hr5.trans hz.symm, fun hne => absurd hz hne⟩
    rw [afterSig, if_pos hz, if_pos htr, List.append_assoc, hC5]
    simp only [readAndSkip_append]
  | case5 hz htr c6 h6 =>   -- final chunk without trailer
    intro h; cases h
    obtain rfl := readAndSkip_eq_ok.1 h6
    refine ⟨⟨[10, 13, 10], rfl, fun Y => ?_⟩, hz.symm, fun hne => absurd hz hne⟩
    rw [afterSig, if_pos hz, if_neg htr]
    simp only [readAndSkip_append]
  | case7 hz c6 h6 =>   -- data chunk
    intro h; cases h
    obtain rfl := readAndSkip_eq_ok.1 h6
    refine ⟨⟨[10], rfl, fun Y => ?_⟩, rfl, fun _ => rfl⟩
    rw [afterSig, if_neg hz]
    simp only [readAndSkip_append]
  | _ => nofun

theorem afterSig_fwd_err {cfg : Cfg} {v : Int} {sig T : Bytes} {e : PErr} (g : Bytes) (hd : Definite e)
    (h : afterSig cfg v sig T = .error e) : afterSig cfg v sig (T ++ g) = .error e := by
  have skip : ∀ {lit c : Bytes} {x : RdErr}, Definite (.rd x) → readAndSkip lit c = .error x →
      readAndSkip lit (c ++ g) = .error x := by
    intro lit c x hx h
    cases x with
    | eof => exact hx.elim
    | mismatch => exact readAndSkip_mismatch_append g h
  revert h
  fun_cases afterSig cfg v sig T with
  | case1 hz htr _ h5 =>   -- the trailer fails
    intro h; cases h
    rw [afterSig, if_pos hz, if_pos htr, parseTrailer_fwd_err g hd h5]
  | case2 hz htr _ _ h5 _ h6 =>   -- the closing CRLFs behind the trailer
    intro h; cases h
    rw [afterSig, if_pos hz, if_pos htr]
    simp only [(parseTrailer_consumes h5).1.fwd g, skip hd h6]
  | case4 hz htr _ h6 =>   -- the closing CRLFs, no trailer
    intro h; cases h
    rw [afterSig, if_pos hz, if_neg htr, skip hd h6]
  | case6 hz _ h6 =>   -- the LF of a data chunk's header
    intro h; cases h
    rw [afterSig, if_neg hz, skip hd h6]
  | _ => nofun

theorem parseIntHex64_no_cr {s : Bytes} {v : Int} (h : parseIntHex64 s = some v) : (13 : UInt8) ∉ s := by
  have key : ∀ {t : Bytes} {n : Nat}, parseHexDigits t = some n → (13 : UInt8) ∉ t :=
    fun ht => isHex_not_mem ht 13 not_hex_13
  revert h
  fun_cases parseIntHex64 s with
  | case2 _ _ hp => exact fun _ => by simp [key hp]   -- "+" digits
  | case5 _ _ hp => exact fun _ => by simp [key hp]   -- "-" digits
  | case8 _ _ _ _ _ _ hp => exact fun _ => key hp   -- digits, in range
  | case9 _ _ _ _ _ hn hp => simp [hp, hn]   -- digits, out of range
  | case10 _ _ _ _ hp => simp [hp]   -- no digits
  | _ => nofun

theorem parseCore_ok {cfg : Cfg} {X : Bytes} {r : Parsed} {rest : Bytes} (h : parseCore cfg X = .ok (r, rest)) :
    Consumes (parseCore cfg) X r rest ∧ 0 ≤ r.chunkSize ∧
      (r.chunkSize ≠ 0 → ∃ A, X = A ++ 13 :: 10 :: rest ∧ (13 : UInt8) ∉ A) := by
  rcases parseCore_front_cases cfg X with ⟨a, v, sig, T, rfl, n1, hv, h0, n4⟩ | ⟨e, he, _⟩
  · rw [parseCore_front cfg T n1 hv h0 n4] at h
    obtain ⟨⟨C, rfl, hC⟩, hr, hT⟩ := afterSig_consumes h
    refine ⟨⟨a ++ 59 :: (chunkSignatureLit ++ (sig ++ 13 :: C)), by simp, fun Y => ?_⟩, hr ▸ h0, fun hne => ?_⟩
    · simpa using (parseCore_front cfg (C ++ Y) n1 hv h0 n4).trans (hC Y)
    · refine ⟨a ++ 59 :: (chunkSignatureLit ++ sig), by simp [hT (hr ▸ hne)], ?_⟩
      simp only [List.mem_append, List.mem_cons, not_or]
      exact ⟨parseIntHex64_no_cr hv, by decide, by decide, n4⟩
  · rw [he] at h; contradiction

theorem parseCore_fwd_err {cfg : Cfg} {X : Bytes} {e : PErr} (g : Bytes) (hd : Definite e)
    (h : parseCore cfg X = .error e) : parseCore cfg (X ++ g) = .error e := by
  rcases parseCore_front_cases cfg X with ⟨a, v, sig, T, rfl, n1, hv, h0, n4⟩ | ⟨e', he, hp⟩
  · rw [parseCore_front cfg T n1 hv h0 n4] at h
    simpa using (parseCore_front cfg (T ++ g) n1 hv h0 n4).trans (afterSig_fwd_err g hd h)
  · obtain rfl : e' = e := by simpa [he] using h
    exact hp hd g

theorem parseHeader_first (cfg : Cfg) : parseHeader cfg true = parseCore cfg := funext fun _ => if_pos rfl

theorem parseHeader_next (cfg : Cfg) (X : Bytes) : parseHeader cfg false ([13, 10] ++ X) = parseCore cfg X := by
  simp [parseHeader, readAndSkip]

/-- for a data chunk, `bytes.Index(header[skip:], "\r\n") + skip + 2` is the number of bytes consumed -/
theorem parseHeader_ok {cfg : Cfg} {first : Bool} {H : Bytes} {r : Parsed} {rest : Bytes}
    (h : parseHeader cfg first H = .ok (r, rest)) :
    Consumes (parseHeader cfg first) H r rest ∧ 0 ≤ r.chunkSize ∧
      (r.chunkSize ≠ 0 → indexCRLF (H.drop (if first then 0 else 2)) + ((if first then 0 else 2 : Nat) : Int) + 2 =
        (H.length : Int) - rest.length) := by
  cases first with
  | true =>
    rw [parseHeader_first] at h ⊢
    obtain ⟨hc, h0, hA⟩ := parseCore_ok h
    refine ⟨hc, h0, fun hne => ?_⟩
    obtain ⟨A, rfl, hn⟩ := hA hne
    simp [indexCRLF_append A rest hn]
    omega
  | false =>
    unfold parseHeader at h
    simp only [Bool.false_eq_true, if_false] at h
    split at h; · contradiction
    rename_i cur h1
    obtain rfl := readAndSkip_eq_ok.1 h1
    obtain ⟨⟨C, rfl, hC⟩, h0, hA⟩ := parseCore_ok h
    refine ⟨⟨[13, 10] ++ C, by simp, fun Y => ?_⟩, h0, fun hne => ?_⟩
    · rw [List.append_assoc, parseHeader_next, hC]
    · obtain ⟨A, hX, hn⟩ := hA hne
      rw [hX]
      simp [indexCRLF_append A rest hn]
      omega

theorem parseHeader_fwd_err {cfg : Cfg} {first : Bool} {H : Bytes} {e : PErr} (g : Bytes) (hd : Definite e)
    (h : parseHeader cfg first H = .error e) : parseHeader cfg first (H ++ g) = .error e := by
  cases first with
  | true => rw [parseHeader_first] at h ⊢; exact parseCore_fwd_err g hd h
  | false =>
    unfold parseHeader at h ⊢
    simp only [Bool.false_eq_true, if_false] at h ⊢
    split at h
    · rename_i x h1
      cases x with
      | eof => cases h; exact hd.elim
      | mismatch => rw [readAndSkip_mismatch_append g h1]; exact h
    · rename_i cur h1
      simp only [readAndSkip_fwd g h1]
      exact parseCore_fwd_err g hd h

/-- `F` ends inside `Hd`, or covers it -/
theorem split_prefix (F G Hd T : Bytes) (h : F ++ G = Hd ++ T) :
    (F.length < Hd.length ∧ ∃ X, X ≠ [] ∧ F ++ X = Hd) ∨ (∃ F', F = Hd ++ F' ∧ F' ++ G = T) := by
  rcases List.append_eq_append_iff.1 h with ⟨a, h1, h2⟩ | ⟨c, h1, h2⟩
  · by_cases ha : a = []
    · subst ha; right; exact ⟨[], by simp [h1], by simpa using h2⟩
    · left
      refine ⟨?_, a, ha, h1.symm⟩
      have := List.length_pos_iff.2 ha
      rw [h1]; simp; omega
  · right; exact ⟨c, h1, h2.symm⟩

theorem parseHeader_needMore_then_ok {cfg : Cfg} {first : Bool} {H g : Bytes} {r : Parsed} {rest : Bytes}
    (h1 : parseHeader cfg first H = .error (.rd .eof)) (h2 : parseHeader cfg first (H ++ g) = .ok (r, rest)) :
    rest.length < g.length := by
  obtain ⟨⟨C, e, hC⟩, _, _⟩ := parseHeader_ok h2
  rcases split_prefix H g C rest e with ⟨hlt, _⟩ | ⟨c', hH, _⟩
  · have := congrArg List.length e
    simp only [List.length_append] at this
    omega
  · -- the parse ends inside `H`: `H` alone would have parsed
    rw [hH, hC c'] at h1
    contradiction

end Vgw.Lemmas.ChunkParse
