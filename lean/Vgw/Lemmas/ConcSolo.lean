/-
  Lemmas about Model.Conc: a reader whose every step resolves to ONE inode collects exactly
  `observe` of that inode (the sequential GET/HEAD of that object).
-/
import Vgw.Lemmas.ConcRead
namespace Vgw.Model.Conc

/-- one reading step against the fixed inode `ino`. -/
def soloStep (ino : Inode) (l : Local) : Local :=
  match l.prog with
  | [] => l
  | a :: rest => readAct (some ino) { l with prog := rest } a

def soloRun (ino : Inode) : Nat → Local → Local
  | 0, l => l
  | n + 1, l => soloRun ino n (soloStep ino l)

theorem soloRun_add (ino : Inode) (a b : Nat) (l : Local) : soloRun ino (a + b) l = soloRun ino b (soloRun ino a l) := by
  induction a generalizing l with
  | zero => simp [soloRun]
  | succ a ih => rw [Nat.add_right_comm]; simp only [soloRun]; exact ih _

theorem listLen_eq_zero (l : List (Attr × Val)) (h : listLen l = 0) : l = [] := by
  cases l with
  | nil => rfl
  | cons p l =>
    obtain ⟨a, v⟩ := p
    simp only [listLen] at h
    have : a.nameLen > 0 := by cases a <;> exact Nat.zero_lt_succ _
    omega

theorem soloStep_cons (ino : Inode) (l : Local) (a : Act) (rest : List Act) (hp : l.prog = a :: rest) :
    soloStep ino l = readAct (some ino) { l with prog := rest } a := by
  simp [soloStep, hp]

theorem soloRun_succ (ino : Inode) (n : Nat) (l : Local) : soloRun ino (n + 1) l = soloRun ino n (soloStep ino l) := rfl

theorem solo_getmetas (ino : Inode) (ks : List Nat) (rest : List Act) (l : Local) (hp : l.prog = ks.map .getmeta ++ rest) :
    soloRun ino ks.length l =
      { l with prog := rest, acc := { l.acc with umeta := l.acc.umeta ++ metaOf ino.attrs ks } } := by
  induction ks generalizing l with
  | nil => cases l; cases hp; rw [metaOf, List.append_nil]; rfl
  | cons k ks ih =>
    rw [List.length_cons, soloRun_succ, soloStep_cons ino l _ _ hp]
    simp only [readAct, Option.bind_some]
    cases hg : getAttr ino.attrs (.umeta k) with
    | none =>
      simp only [metaOf, hg]
      rw [ih _ rfl]
    | some v =>
      simp only [metaOf, hg]
      rw [ih _ rfl]
      simp [List.append_assoc]

theorem solo_gethdrs (ino : Inode) (as : List Attr) (rest : List Act) (l : Local) (hp : l.prog = as.map .gethdr ++ rest) :
    soloRun ino as.length l =
      { l with prog := rest, acc := { l.acc with hdrs := l.acc.hdrs ++ hdrsOf ino.attrs as } } := by
  induction as generalizing l with
  | nil => cases l; cases hp; rw [hdrsOf, List.append_nil]; rfl
  | cons a as ih =>
    rw [List.length_cons, soloRun_succ, soloStep_cons ino l _ _ hp]
    simp only [readAct, Option.bind_some]
    cases hg : getAttr ino.attrs a with
    | none =>
      simp only [hdrsOf, hg]
      rw [ih _ rfl]
    | some v =>
      simp only [hdrsOf, hg]
      rw [ih _ rfl]
      simp [List.append_assoc]

def readTail (head : Bool) : List Act := if head then [.statign, .statign] else [.gettags]

def afterOpen (head : Bool) : List Act := [.rstat] ++ readAttrProg ++ readTail head

/-- what a reader has collected when its program is exhausted: `observe` without the body (which is
    attached from the descriptor when the answer is built). -/
def accOf (ino : Inode) (head : Bool) : ReadResp := { observe ino head with body := none }

theorem solo_tail (ino : Inode) (head : Bool) (l : Local) (hp : l.prog = readTail head) :
    soloRun ino (readTail head).length l =
      { l with prog := [], acc := { l.acc with tags := if head then l.acc.tags else getAttr ino.attrs .tags } } := by
  cases head <;> simp [readTail] at hp ⊢ <;> simp [soloRun, soloStep, hp, readAct]

def hdrProg : List Act := hdrAttrs.map .gethdr

theorem afterOpen_eq (head : Bool) :
    afterOpen head = .rstat :: .listsize :: .listnames :: (hdrProg ++ (.getetag :: readTail head)) := by
  simp [afterOpen, readAttrProg, hdrProg]

theorem dropMeta_afterList (head : Bool) :
    dropMeta (.listnames :: (hdrProg ++ (.getetag :: readTail head))) = .getetag :: readTail head := by
  cases head <;> rfl

theorem solo_eval (ino : Inode) (head : Bool) (l : Local) (hp : l.prog = afterOpen head) (hacc : l.acc = {}) :
    ∃ n, (soloRun ino n l).prog = [] ∧ (soloRun ino n l).acc = accOf ino head ∧
         (soloRun ino n l).result = l.result ∧ (soloRun ino n l).fd = l.fd := by
  -- the run: rstat, listsize, listnames (3 steps), one getmeta per listed key, the gethdr of `hdrAttrs`,
  -- getetag and the tail; with no attribute at all the listing is empty and loadObjectMetaData returns
  -- at once (2 steps)
  rw [afterOpen_eq] at hp
  have e1 : soloStep ino l = { l with prog := .listsize :: .listnames :: (hdrProg ++ (.getetag :: readTail head)),
                                      acc := { l.acc with size := ino.data.len } } := by
    rw [soloStep_cons _ _ _ _ hp]; rfl
  have hget : ∀ l' : Local, l'.prog = .getetag :: readTail head →
      soloRun ino (1 + (readTail head).length) l' =
        { l' with prog := [],
                  acc := { l'.acc with etag := getAttr ino.attrs .etag,
                                       tags := if head then l'.acc.tags else getAttr ino.attrs .tags } } := by
    intro l' hl'
    rw [soloRun_add]
    have : soloRun ino 1 l' = { l' with prog := readTail head, acc := { l'.acc with etag := getAttr ino.attrs .etag } } := by
      simp only [soloRun, soloStep_cons _ _ _ _ hl']; rfl
    rw [this, solo_tail _ _ _ rfl]
  by_cases h0 : listLen ino.attrs = 0
  · have hattrs := listLen_eq_zero _ h0
    refine ⟨2 + (1 + (readTail head).length), ?_⟩
    rw [soloRun_add]
    have h2 : soloRun ino 2 l = { l with prog := .getetag :: readTail head, acc := { l.acc with size := ino.data.len } } := by
      simp only [soloRun, e1]
      rw [soloStep_cons _ _ _ _ rfl]
      simp only [readAct, h0, if_true, dropMeta_afterList]
    rw [h2, hget _ rfl]
    cases head <;> simp [hacc, accOf, observe, hattrs, getAttr, metaOf, umetaKeys, hdrsOf, hdrAttrs]
  · refine ⟨3 + ((umetaKeys ino.attrs).length + (hdrAttrs.length + (1 + (readTail head).length))), ?_⟩
    rw [soloRun_add]
    have h3 : soloRun ino 3 l =
        { l with prog := (umetaKeys ino.attrs).map .getmeta ++ (hdrProg ++ (.getetag :: readTail head)),
                 probe := listLen ino.attrs, acc := { l.acc with size := ino.data.len } } := by
      have e2 : ∀ l1 : Local, l1.prog = .listsize :: .listnames :: (hdrProg ++ (.getetag :: readTail head)) →
          soloStep ino l1 = { l1 with prog := .listnames :: (hdrProg ++ (.getetag :: readTail head)), probe := listLen ino.attrs } := by
        intro l1 h1
        rw [soloStep_cons _ _ _ _ h1]
        simp only [readAct, h0, if_false]
      have e3 : ∀ l2 : Local, l2.prog = .listnames :: (hdrProg ++ (.getetag :: readTail head)) → l2.probe = listLen ino.attrs →
          soloStep ino l2 = { l2 with prog := (umetaKeys ino.attrs).map .getmeta ++ (hdrProg ++ (.getetag :: readTail head)) } := by
        intro l2 h2 hpr
        rw [soloStep_cons _ _ _ _ h2]
        have : ¬ (listLen ino.attrs > listLen ino.attrs + 1) := by omega
        simp only [readAct, hpr, this, if_false]
      have s2 := e2 (soloStep ino l) (by rw [e1])
      have s3 := e3 (soloStep ino (soloStep ino l)) (by rw [s2]) (by rw [s2])
      simp only [soloRun]
      rw [s3, s2, e1]
    rw [h3, soloRun_add, solo_getmetas _ _ _ _ rfl, soloRun_add]
    have := solo_gethdrs ino hdrAttrs (.getetag :: readTail head)
    rw [this _ rfl, hget _ rfl]
    cases head <;> simp [hacc, accOf, observe]

end Vgw.Model.Conc
