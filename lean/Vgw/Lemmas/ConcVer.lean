/-
  Lemmas for Props/C05Ver: the invariants of Model.ConcVer.
-/
import Vgw.Model.ConcVer
import Vgw.Lemmas.ListFind
namespace Vgw.Model.ConcVer

theorem mem_putVer {arch : List Ver} {v e : Ver} (h : e ∈ putVer arch v) : e = v ∨ e ∈ arch := by
  unfold putVer at h
  rcases List.mem_cons.mp h with h | h
  · exact Or.inl h
  · exact Or.inr (List.mem_filter.mp h).1

theorem nodup_putVer {arch : List Ver} {v : Ver} (h : (arch.map (·.src.vid)).Nodup) :
    ((putVer arch v).map (·.src.vid)).Nodup := by
  unfold putVer
  rw [List.map_cons, List.nodup_cons]
  refine ⟨fun hm => ?_, List.Nodup.sublist (List.Sublist.map _ List.filter_sublist) h⟩
  obtain ⟨e, he, hv⟩ := List.mem_map.mp hm
  have := (List.mem_filter.mp he).2
  simp [hv] at this

/-- the handle a request holds, if any. -/
def Req.handle (r : Req) : Option Obj :=
  match r.pc with
  | .opened h | .archived h => h
  | _ => none

/-- what a request refers to (by handle, or as its own publication) has been published. -/
def ReqOK (hist : List Obj) (r : Req) : Prop :=
  (∀ o, r.handle = some o → o ∈ hist) ∧ ∀ v, (r.pc = .published v ∨ r.pc = .done v) → (⟨r.w, v⟩ : Obj) ∈ hist

/-- invariant of every interleaving (no lock), code as it is. -/
structure Inv (s : Sys) : Prop where
  arch : ∀ v ∈ s.arch, v.complete = true ∧ v.src ∈ s.hist
  reqs : ∀ r ∈ s.reqs, ReqOK s.hist r
  cur  : ∀ o, s.cur = some o → o ∈ s.hist
  vids : ∀ o ∈ s.hist, o.vid < s.nextVid
  nodup : (s.hist.map (·.vid)).Nodup
  one  : (s.arch.map (·.src.vid)).Nodup

theorem forall_setReq {Q : Req → Prop} {l : List Req} {i : Nat} {r : Req} (h : ∀ x ∈ l, Q x) (hr : Q r) :
    ∀ x ∈ setReq l i r, Q x := fun x hx =>
  (List.mem_or_eq_of_mem_set hx).elim (h x) (· ▸ hr)

theorem Inv_init (c : Option Obj) (ws : List Nat) : Inv (init c ws) where
  arch := nofun
  reqs := fun r hr => by
    obtain ⟨w, _, rfl⟩ := List.mem_map.1 hr
    exact ⟨nofun, fun v h => by rcases h with h | h <;> cases h⟩
  cur := fun _ h => Option.mem_toList.2 h
  vids := fun o ho => by cases Option.mem_toList.1 ho; exact Nat.lt_succ_self _
  nodup := by cases c <;> simp [init]
  one := List.nodup_nil

theorem Inv_step {s : Sys} (h : Inv s) (i : Nat) : Inv (step .byFd s i) := by
  unfold step
  split
  · exact h
  · rename_i r hr
    have hrm := h.reqs r (List.mem_of_getElem? hr)
    split
    · -- start
      exact { h with reqs := forall_setReq h.reqs ⟨fun o ho => h.cur o ho, fun v hv => by rcases hv with hv | hv <;> cases hv⟩ }
    · -- opened
      rename_i hh hpc
      have hho : ∀ o, hh = some o → o ∈ s.hist := fun o ho => hrm.1 o (by rw [Req.handle, hpc]; exact ho)
      refine { h with arch := fun v hv => ?_, one := ?_,
                      reqs := forall_setReq h.reqs ⟨hho, fun v hv => by rcases hv with hv | hv <;> cases hv⟩ }
      · cases hh with
        | none => exact h.arch v hv
        | some o =>
          rcases mem_putVer hv with rfl | hv
          · exact ⟨beq_self_eq_true _, hho o rfl⟩
          · exact h.arch v hv
      · cases hh with
        | none => exact h.one
        | some o => exact nodup_putVer h.one
    · -- archived
      have hmono : ∀ x, ReqOK s.hist x → ReqOK (⟨r.w, s.nextVid⟩ :: s.hist) x := fun x hx =>
        ⟨fun o ho => List.mem_cons_of_mem _ (hx.1 o ho), fun v hv => List.mem_cons_of_mem _ (hx.2 v hv)⟩
      refine ⟨fun v hv => ⟨(h.arch v hv).1, List.mem_cons_of_mem _ (h.arch v hv).2⟩,
        forall_setReq (fun x hx => hmono x (h.reqs x hx)) ⟨nofun, fun v hv => ?_⟩,
        fun o ho => by cases ho; exact List.mem_cons_self, fun o ho => ?_, ?_, h.one⟩
      · rcases hv with hv | hv <;> cases hv
        exact List.mem_cons_self
      · rcases List.mem_cons.mp ho with rfl | ho
        · exact Nat.lt_succ_self _
        · exact Nat.lt_succ_of_lt (h.vids o ho)
      · rw [List.map_cons, List.nodup_cons]
        refine ⟨fun hm => ?_, h.nodup⟩
        obtain ⟨o, ho, hv⟩ := List.mem_map.mp hm
        exact Nat.lt_irrefl _ (hv ▸ h.vids o ho)
    · -- published
      rename_i v hpc
      exact { h with reqs := forall_setReq h.reqs ⟨nofun, fun v' hv => by
        rcases hv with hv | hv <;> cases hv
        exact hrm.2 v (.inl hpc)⟩ }
    · exact h

theorem Inv_run {s : Sys} (h : Inv s) (sched : List Nat) : Inv (run .byFd s sched) := by
  induction sched generalizing s with
  | nil => exact h
  | cons i l ih => exact ih (Inv_step h i)

theorem find_vid {arch : List Ver} {v : Nat} {e : Ver} (h : arch.find? (fun e => e.src.vid == v) = some e) :
    e ∈ arch ∧ e.src.vid = v :=
  find?_key_some (key := fun e : Ver => e.src.vid) h

theorem mem_acked {s : Sys} {v : Nat} (h : v ∈ acked s) : ∃ r ∈ s.reqs, r.pc = .done v := by
  obtain ⟨r, hr, hm⟩ := List.mem_filterMap.mp h
  split at hm <;> cases hm
  exact ⟨r, hr, ‹_›⟩

/-- every published object can be read back under its version id. -/
def Retrievable (s : Sys) : Prop :=
  ∀ o ∈ s.hist, s.cur = some o ∨ (⟨o, o⟩ : Ver) ∈ s.arch

/-- the requests between openCur and publish: at most one; it holds the object that is current, and
    once it has archived it, the archive has it. -/
structure CSInv (s : Sys) : Prop where
  uniq : ∀ (i j : Nat) (r r' : Req), s.reqs[i]? = some r → s.reqs[j]? = some r' → r.inCS = true → r'.inCS = true → i = j
  held : ∀ (j : Nat) (r : Req), s.reqs[j]? = some r → r.inCS = true → r.handle = s.cur
  archived : ∀ (j : Nat) (r : Req), s.reqs[j]? = some r → ∀ h, r.pc = .archived h → ∀ o, h = some o → (⟨o, o⟩ : Ver) ∈ s.arch

structure InvL (s : Sys) : Prop where
  base : Inv s
  retr : Retrievable s
  cs : CSInv s

theorem getElem?_setReq {l : List Req} {i j : Nat} {r x : Req} (h : (setReq l i r)[j]? = some x) :
    (i = j ∧ x = r) ∨ (i ≠ j ∧ l[j]? = some x) := by
  unfold setReq at h
  rw [List.getElem?_set] at h
  split at h
  · split at h
    · left
      exact ⟨by assumption, by simpa using h.symm⟩
    · cases h
  · right
    exact ⟨by assumption, h⟩

theorem mem_putVer_of_mem {arch : List Ver} {v e : Ver} (h : e ∈ arch) (hne : e.src.vid ≠ v.src.vid) :
    e ∈ putVer arch v := by
  unfold putVer
  exact List.mem_cons_of_mem _ (List.mem_filter.mpr ⟨h, by simpa using hne⟩)

theorem init_req {c : Option Obj} {ws : List Nat} {j : Nat} {r : Req} (h : (init c ws).reqs[j]? = some r) :
    r.pc = .start := by
  have : r ∈ (init c ws).reqs := List.mem_of_getElem? h
  simp [init] at this
  rcases this with ⟨w, _, rfl⟩
  rfl

theorem InvL_init (c : Option Obj) (ws : List Nat) : InvL (init c ws) := by
  refine ⟨Inv_init c ws, fun o ho => .inl (Option.mem_toList.1 ho), ?_, ?_, ?_⟩
  · intro i j r r' hi _ hr _
    simp [Req.inCS, init_req hi] at hr
  · intro j r hj hcs
    simp [Req.inCS, init_req hj] at hcs
  · intro j r hj h hpc
    simp [init_req hj] at hpc

theorem CSInv_update {s s' : Sys} {i : Nat} {r r' : Req} (h : CSInv s) (hr : s.reqs[i]? = some r)
    (hreqs : s'.reqs = setReq s.reqs i r')
    (hexcl : r'.inCS = true → r.inCS = true ∨ ∀ (j : Nat) (x : Req), s.reqs[j]? = some x → x.inCS = false)
    (hkeep : r.inCS = false → s'.cur = s.cur ∧ ∀ v ∈ s.arch, v ∈ s'.arch)
    (hnew : r'.inCS = true →
      r'.handle = s'.cur ∧ ∀ h, r'.pc = .archived h → ∀ o, h = some o → (⟨o, o⟩ : Ver) ∈ s'.arch) :
    CSInv s' := by
  -- another request inside: then `r` is not, and that request is as it was
  have other : ∀ j x, s'.reqs[j]? = some x → i ≠ j → x.inCS = true → s.reqs[j]? = some x ∧ r.inCS = false := by
    intro j x hx hne hcs
    rw [hreqs] at hx
    rcases getElem?_setReq hx with ⟨e, _⟩ | ⟨_, hx⟩
    · exact absurd e hne
    · refine ⟨hx, ?_⟩
      cases hc : r.inCS
      · rfl
      · exact absurd (h.uniq i j r x hr hx hc hcs) hne
  have self : ∀ x, s'.reqs[i]? = some x → x = r' := by
    intro x hx
    rw [hreqs] at hx
    rcases getElem?_setReq hx with ⟨_, e⟩ | ⟨hne, _⟩
    · exact e
    · exact absurd rfl hne
  have alone : ∀ j x, s'.reqs[j]? = some x → i ≠ j → x.inCS = true → r'.inCS = false := by
    intro j x hx hne hcs
    obtain ⟨hx', hrn⟩ := other j x hx hne hcs
    cases hc : r'.inCS
    · rfl
    · rcases hexcl hc with h1 | h1
      · rw [hrn] at h1; cases h1
      · rw [h1 j x hx'] at hcs; cases hcs
  refine ⟨fun a b x y ha hb hx hy => ?_, fun j x hj hcs => ?_, fun j x hj hh hpc o ho => ?_⟩
  · by_cases hai : i = a <;> by_cases hbi : i = b
    · exact hai.symm.trans hbi
    · subst hai; cases self x ha
      rw [alone b y hb hbi hy] at hx; cases hx
    · subst hbi; cases self y hb
      rw [alone a x ha hai hx] at hy; cases hy
    · exact h.uniq a b x y (other a x ha hai hx).1 (other b y hb hbi hy).1 hx hy
  · by_cases hji : i = j
    · subst hji; cases self x hj; exact (hnew hcs).1
    · obtain ⟨hj', hrn⟩ := other j x hj hji hcs
      rw [(hkeep hrn).1]; exact h.held j x hj' hcs
  · have hcs : x.inCS = true := by rw [Req.inCS, hpc]
    by_cases hji : i = j
    · subst hji; cases self x hj; exact (hnew hcs).2 hh hpc o ho
    · obtain ⟨hj', hrn⟩ := other j x hj hji hcs
      exact (hkeep hrn).2 _ (h.archived j x hj' hh hpc o ho)

theorem InvL_stepL {s : Sys} (h : InvL s) (i : Nat) : InvL (stepL .byFd s i) := by
  unfold stepL
  cases hr : s.reqs[i]? with
  | none => exact h
  | some r =>
  have hb' := Inv_step h.base i
  have hcsr : r.inCS = true → r.handle = s.cur := h.cs.held i r hr
  unfold step at hb' ⊢
  simp only [hr] at hb' ⊢
  cases hpc : r.pc with
  | start =>
    simp only [hpc] at hb' ⊢
    split
    · exact h
    · rename_i hany
      have hnone : ∀ (j : Nat) (x : Req), s.reqs[j]? = some x → x.inCS = false := fun j x hx =>
        Bool.eq_false_iff.2 fun hc => hany (List.any_eq_true.mpr ⟨x, List.mem_of_getElem? hx, hc⟩)
      exact ⟨hb', h.retr, CSInv_update h.cs hr rfl (fun _ => .inr hnone) (fun _ => ⟨rfl, fun _ hv => hv⟩)
        (fun _ => ⟨rfl, fun _ hp => nomatch hp⟩)⟩
  | opened hh =>
    simp only [hpc] at hb' ⊢
    have hrcs : r.inCS = true := by rw [Req.inCS, hpc]
    have hcur : hh = s.cur := by have := hcsr hrcs; rwa [Req.handle, hpc] at this
    refine ⟨hb', fun o ho => ?_, CSInv_update h.cs hr rfl (fun _ => .inl hrcs) (fun hn => by rw [hrcs] at hn; cases hn)
      (fun _ => ⟨hcur, fun h2 hp o ho => ?_⟩)⟩
    · -- archiving replaces only a file of the same version id, i.e. of the same object
      rcases h.retr o ho with hc | hin
      · exact .inl hc
      · cases hh with
        | none => exact .inr hin
        | some o' =>
          by_cases hv : o.vid = o'.vid
          · cases eq_of_map_eq h.base.nodup ho (h.base.cur o' hcur.symm) hv
            exact .inr List.mem_cons_self
          · exact .inr (mem_putVer_of_mem hin hv)
    · cases hp; cases ho
      exact List.mem_cons_self
  | archived hh =>
    simp only [hpc] at hb' ⊢
    have hrcs : r.inCS = true := by rw [Req.inCS, hpc]
    have hcur : hh = s.cur := by have := hcsr hrcs; rwa [Req.handle, hpc] at this
    refine ⟨hb', fun o ho => ?_, CSInv_update h.cs hr rfl (fun hc => nomatch hc) (fun hn => by rw [hrcs] at hn; cases hn)
      (fun hc => nomatch hc)⟩
    -- the object that was current has been archived by this request
    rcases List.mem_cons.mp ho with rfl | ho
    · exact .inl rfl
    · refine .inr ((h.retr o ho).elim (fun hc => ?_) id)
      exact h.cs.archived i r hr hh hpc o (by rw [hcur, hc])
  | published v =>
    simp only [hpc] at hb' ⊢
    exact ⟨hb', h.retr, CSInv_update h.cs hr rfl (fun hc => nomatch hc) (fun _ => ⟨rfl, fun _ hv => hv⟩)
      (fun hc => nomatch hc)⟩
  | done v => exact h

theorem InvL_runL {s : Sys} (h : InvL s) (sched : List Nat) : InvL (runL .byFd s sched) := by
  induction sched generalizing s with
  | nil => exact h
  | cons i l ih => exact ih (InvL_stepL h i)

end Vgw.Model.ConcVer
