/-
  C18 — base64 round trip, and the tag store of the ACL-in-a-tag logic: what `GetBucketAcl` and
  the client tagging calls see of the reserved tag.
-/
import Vgw.Model.Proxy
import Vgw.Lemmas.Encoding
import Vgw.Lemmas.ListFind
namespace Vgw.Lemmas.ProxyAcl
open Vgw Vgw.Model.Proxy

theorem b64Val_char (n : Nat) (h : n < 64) : b64Val (b64Char n) = some n :=
  (by decide +kernel : ∀ n : Fin 64, b64Val (b64Char n.val) = some n.val) ⟨n, h⟩

theorem b64Char_ne_61 (n : Nat) : b64Char n ≠ 61 := ne_of_beq_false (b64Char_ok n).2

theorem b64Decode_quantum {a b c d : UInt8} {x y z w : Nat} (rest : Bytes)
    (ha : b64Val a = some x) (hb : b64Val b = some y) (hc : b64Val c = some z) (hd : b64Val d = some w)
    (pc : c ≠ 61) (pd : d ≠ 61) :
    b64Decode (a :: b :: c :: d :: rest) = (b64Decode rest).map fun tl =>
      UInt8.ofNat (x * 4 + y / 16) :: UInt8.ofNat (y % 16 * 16 + z / 4) :: UInt8.ofNat (z % 4 * 64 + w) :: tl := by
  cases rest with
  | nil => simp only [b64Decode, ha, hb, hc, hd, pc, pd, if_false, Option.map_some]
  | cons e es =>
    simp only [b64Decode, ha, hb, hc, hd]
    cases b64Decode (e :: es) <;> rfl

private theorem ofNat_eq (a : UInt8) {n : Nat} (h : n = a.toNat) : UInt8.ofNat n = a :=
  h ▸ UInt8.ofNat_toNat

/-! The decoder's byte formulas undo the encoder's sextet formulas. -/

private theorem byte1 (a b : UInt8) :
    UInt8.ofNat (a.toNat / 4 * 4 + (a.toNat % 4 * 16 + b.toNat / 16) / 16) = a := by
  have := a.toNat_lt
  have := b.toNat_lt
  exact ofNat_eq a (by omega)

private theorem byte1' (a : UInt8) :
    UInt8.ofNat (a.toNat / 4 * 4 + (a.toNat % 4 * 16) / 16) = a :=
  byte1 a 0

private theorem byte2 (a b c : UInt8) :
    UInt8.ofNat ((a.toNat % 4 * 16 + b.toNat / 16) % 16 * 16 + (b.toNat % 16 * 4 + c.toNat / 64) / 4) = b := by
  have := a.toNat_lt
  have := b.toNat_lt
  have := c.toNat_lt
  exact ofNat_eq b (by omega)

private theorem byte2' (a b : UInt8) :
    UInt8.ofNat ((a.toNat % 4 * 16 + b.toNat / 16) % 16 * 16 + (b.toNat % 16 * 4) / 4) = b :=
  byte2 a b 0

private theorem byte3 (b c : UInt8) :
    UInt8.ofNat ((b.toNat % 16 * 4 + c.toNat / 64) % 4 * 64 + c.toNat % 64) = c := by
  have := b.toNat_lt
  have := c.toNat_lt
  exact ofNat_eq c (by omega)

/-- `base64.StdEncoding`: decoding what was encoded gives the bytes back, for every byte string. -/
theorem b64_roundtrip : ∀ x : Bytes, b64Decode (b64Encode x) = some x
  | [] => rfl
  | [a] => by
    have ha : a.toNat < 256 := a.toNat_lt
    simp only [b64Encode, b64Decode, b64Val_char (a.toNat / 4) (by omega), b64Val_char (a.toNat % 4 * 16) (by omega),
      if_true, byte1']
  | [a, b] => by
    have ha : a.toNat < 256 := a.toNat_lt
    have hb : b.toNat < 256 := b.toNat_lt
    simp only [b64Encode, b64Decode, b64Val_char (a.toNat / 4) (by omega),
      b64Val_char (a.toNat % 4 * 16 + b.toNat / 16) (by omega),
      b64Val_char (b.toNat % 16 * 4) (by omega), b64Char_ne_61, if_false, if_true, byte1, byte2']
  | a :: b :: c :: rest => by
    have ha := a.toNat_lt
    have hb := b.toNat_lt
    have hc := c.toNat_lt
    rw [b64Encode, b64Decode_quantum _ (b64Val_char _ (by omega)) (b64Val_char _ (by omega))
      (b64Val_char _ (by omega)) (b64Val_char _ (by omega)) (b64Char_ne_61 _) (b64Char_ne_61 _),
      b64_roundtrip rest, Option.map_some, byte1, byte2, byte3]

theorem b64Encode_length : ∀ x : Bytes, (b64Encode x).length = (x.length + 2) / 3 * 4
  | [] => rfl
  | [_] => by simp [b64Encode]
  | [_, _] => by simp [b64Encode]
  | a :: b :: c :: rest => by
    have ih := b64Encode_length rest
    simp only [b64Encode, List.length_cons, ih]; omega

theorem find_setTag (k : String) (v : Bytes) (t : Tags) :
    (setTag k v t).find? (fun kv => kv.1 == k) = some (k, v) := by
  induction t with
  | nil => simp [setTag]
  | cons kv rest ih =>
    unfold setTag
    cases h : kv.1 == k
    · simpa [h] using ih
    · simp

theorem find_setTag_other (k k' : String) (v : Bytes) (t : Tags) (h : k' ≠ k) :
    (setTag k v t).find? (fun kv => kv.1 == k') = t.find? (fun kv => kv.1 == k') := by
  induction t with
  | nil => simp [setTag, h.symm]
  | cons kv rest ih =>
    unfold setTag
    cases hk : kv.1 == k
    · simp only [Bool.false_eq_true, if_false, List.find?_cons, ih]
    · simp [beq_iff_eq.mp hk, h.symm]

theorem filter_setTag (k : String) (v : Bytes) (t : Tags) :
    (setTag k v t).filter (fun kv => kv.1 != k) = t.filter (fun kv => kv.1 != k) := by
  induction t with
  | nil => simp [setTag]
  | cons kv rest ih =>
    unfold setTag
    cases hk : kv.1 == k
    · simp only [Bool.false_eq_true, if_false, List.filter_cons, ih]
    · simp [beq_iff_eq.mp hk]

theorem endpointPutTags_ok_iff {t t' : Tags} :
    endpointPutTags t = .ok t' ↔ (∀ kv ∈ t, kv.2.length ≤ maxTagValue) ∧ t' = t := by
  unfold endpointPutTags
  split
  · rename_i h
    obtain ⟨kv, hkv, hl⟩ := List.any_eq_true.mp h
    exact ⟨fun h => (nomatch h), fun h => absurd (h.1 kv hkv) (Nat.not_le.mpr (of_decide_eq_true hl))⟩
  · rename_i h
    refine ⟨fun h' => ⟨?_, (Except.ok.inj h').symm⟩, fun h' => h'.2 ▸ rfl⟩
    intro kv hkv
    exact Nat.not_lt.mp fun hl => h (List.any_eq_true.mpr ⟨kv, hkv, decide_eq_true hl⟩)

theorem endpointPutTags_error {t : Tags} {kv : String × Bytes} (hkv : kv ∈ t) (hl : maxTagValue < kv.2.length) :
    endpointPutTags t = .error .invalidTag := by
  unfold endpointPutTags
  rw [if_pos (List.any_eq_true.mpr ⟨kv, hkv, decide_eq_true hl⟩)]

theorem getBucketAcl_congr {s s' : Option Tags}
    (h : (s.getD []).find? (fun kv => kv.1 == aclKeyB) = (s'.getD []).find? (fun kv => kv.1 == aclKeyB)) :
    getBucketAcl s = getBucketAcl s' := by
  have eq : ∀ s : Option Tags, getBucketAcl s = getBucketAcl (some (s.getD [])) := fun s => by
    cases s <;> rfl
  rw [eq s, eq s']
  unfold getBucketAcl
  simp only [h]

theorem clientTagging_get (t : Tags) :
    clientTagging true (some t) .get =
      if (t.filter (fun kv => kv.1 != aclKeyB)).isEmpty then (.error .noSuchTagSet, some t)
      else (.ok (some (t.filter (fun kv => kv.1 != aclKeyB))), some t) := rfl

theorem clientTagging_put_eq (store : Option Tags) (new : Tags) :
    clientTagging true store (.put new) =
      if new.any (fun kv => kv.1 == aclKeyB) then (.error .invalidTag, store)
      else match endpointPutTags (new ++ (store.getD []).filter (fun kv => kv.1 == aclKeyB)) with
        | .error e => (.error e, store)
        | .ok t => (.ok none, some t) := rfl

theorem clientTagging_put (store : Option Tags) {new : Tags} (hk : ∀ kv ∈ new, kv.1 ≠ aclKeyB) :
    clientTagging true store (.put new) =
      match endpointPutTags (new ++ (store.getD []).filter (fun kv => kv.1 == aclKeyB)) with
      | .error e => (.error e, store)
      | .ok t => (.ok none, some t) := by
  rw [clientTagging_put_eq, if_neg]
  exact fun h => by
    obtain ⟨kv, hkv, hb⟩ := List.any_eq_true.mp h
    exact hk kv hkv (beq_iff_eq.mp hb)

theorem clientTagging_delete (t : Tags) :
    clientTagging true (some t) .delete =
      (.ok none, if (t.filter (fun kv => kv.1 == aclKeyB)).isEmpty then none
        else some (t.filter (fun kv => kv.1 == aclKeyB))) := rfl

theorem clientTagging_isolates (impl : Bool) (store : Option Tags) (op : TagOp) :
    ((clientTagging impl store op).2.getD []).find? (fun kv => kv.1 == aclKeyB) =
      (store.getD []).find? (fun kv => kv.1 == aclKeyB) ∧
    ∀ vis, (clientTagging impl store op).1 = .ok (some vis) → ∀ kv ∈ vis, kv.1 ≠ aclKeyB := by
  cases impl with
  | false => exact ⟨rfl, fun _ h => nomatch h⟩
  | true =>
    cases op with
    | get =>
      cases store with
      | none => exact ⟨rfl, fun _ h => nomatch h⟩
      | some t =>
        rw [clientTagging_get]
        split
        · exact ⟨rfl, fun _ h => nomatch h⟩
        · refine ⟨rfl, fun vis h kv hkv => ?_⟩
          obtain rfl := Option.some.inj (Except.ok.inj h)
          simpa using (List.mem_filter.mp hkv).2
    | put new =>
      rw [clientTagging_put_eq]
      split
      · exact ⟨rfl, fun _ h => nomatch h⟩
      · rename_i hnew
        split
        · exact ⟨rfl, fun _ h => nomatch h⟩
        · rename_i t hput
          obtain ⟨-, rfl⟩ := endpointPutTags_ok_iff.mp hput
          refine ⟨?_, fun _ h => nomatch h⟩
          rw [Option.getD_some, List.find?_append, find?_filter_of_imp _ fun _ h => h, List.find?_eq_none.mpr, Option.none_or]
          exact fun kv hkv hb => hnew (List.any_eq_true.mpr ⟨kv, hkv, hb⟩)
    | delete =>
      cases store with
      | none => exact ⟨rfl, fun _ h => nomatch h⟩
      | some t =>
        refine ⟨?_, fun _ h => nomatch h⟩
        rw [clientTagging_delete, Option.getD_some, ← find?_filter_of_imp t fun _ h => h]
        split
        · rename_i hemp
          rw [List.isEmpty_iff.mp hemp]; rfl
        · rfl

end Vgw.Lemmas.ProxyAcl
