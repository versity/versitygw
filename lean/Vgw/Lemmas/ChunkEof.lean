/-
  The signed reader and the way io.EOF arrives: together with the last bytes or on its own.
-/
import Vgw.Lemmas.ChunkMerge
namespace Vgw.Lemmas.ChunkEof
open Vgw Vgw.Model Vgw.Model.ChunkSigned Vgw.Lemmas.ChunkParse Vgw.Lemmas.ChunkMerge

/-- how the result of `parseAndRemoveChunkInfo` with io.EOF pending (`rT`) relates to the result
without (`rF`): the same — or the header parser ran out of input, which is an error at once in one
case and a stashed partial header in the other (`chunkDataLeft = 0`: the bare io.EOF that follows is then
an io.ErrUnexpectedEOF, not a panic) -/
def EofRel (rF rT : Res) : Prop :=
  (rT.2 = rF.2 ∧ (rF.2.status = .nil → rT.1 = setE true rF.1)) ∨
  (rF.2.status = .nil ∧ rT.2 = ⟨rF.2.out, .err .invalidFormat⟩ ∧ rF.1.chunkDataLeft = 0)

theorem EofRel.of_not_nil {rF rT : Res} (h : rT.2 = rF.2) (hn : rF.2.status ≠ .nil) : EofRel rF rT :=
  .inl ⟨h, fun hs => absurd hs hn⟩

theorem EofRel.prepend {rF rT : Res} (h : EofRel rF rT) (d : Bytes) : EofRel (prepend d rF) (prepend d rT) := by
  rcases h with ⟨h1, h2⟩ | ⟨h1, h2, h3⟩
  · refine .inl ⟨?_, fun hs => ?_⟩
    · unfold ChunkSigned.prepend
      rw [h1]
      split <;> rfl
    · rw [prepend_fst, prepend_fst]
      exact h2 (prepend_status d rF ▸ hs)
  · refine .inr ⟨(prepend_status d rF).trans h1, ?_, (prepend_fst d rF).symm ▸ h3⟩
    unfold ChunkSigned.prepend
    rw [h1, h2]

theorem par_eof_mode (cfg : Cfg) : ∀ (f : Nat) (st : State) (p : Bytes), st.isEOF = false →
    ((p.length : Int) ≤ intMax) →
    EofRel (parseAndRemove cfg f st p) (parseAndRemove cfg f (setE true st) p) := by
  intro f
  induction f with
  | zero => intro st p _ _; exact .of_not_nil rfl (by simp [parseAndRemove])
  | succ f ih =>
    intro st p hE hmax
    rw [parseAndRemove, parseAndRemove]
    have hC := pendingCheck_map (inert_setE cfg true) st
    cases hchk : pendingCheck cfg st with
    | error x =>
      rw [hchk] at hC
      rw [parStep_error _ p hchk, parStep_error _ p hC]
      exact .of_not_nil rfl (by simp)
    | ok stc =>
      rw [hchk] at hC
      rw [parStep_ok _ p hchk, parStep_ok _ p hC]
      have hEc : stc.isEOF = false := (pendingCheck_fields hchk).2.2.2.trans hE
      by_cases hnm : stc.stash.length ≤ maxHeaderSize ∧
          parseHeader cfg stc.isFirstHeader (stc.stash ++ p) = .error (.rd .eof)
      · rw [parBody_skip _ (hdr_needMore hnm.1 hEc hnm.2),
          parBody_fail _ (hdr_truncated (st := setE true stc) hnm.1 rfl hnm.2)]
        exact .inr ⟨rfl, rfl, rfl⟩
      · have hd := parBody_decided (parseAndRemove cfg f) true []
          (fun hl h => hnm ⟨hl, h⟩)
        rw [List.append_nil] at hd
        rcases hd with ⟨h1, h2⟩ | ⟨sL, size, off, hsize, hoff0, hoff, hE2, h1, h2⟩
        · exact .of_not_nil h1 h2
        rw [h1, h2]
        rw [cont_eq_dataPhase cfg _ ⟨by omega, hoff⟩ (by omega) hmax (par_out_le cfg f),
          cont_eq_dataPhase cfg _ ⟨by omega, hoff⟩ (by omega) hmax (par_out_le cfg f)]
        unfold dataPhase
        split
        · exact (ih (hashWrite cfg { sL with chunkDataLeft := 0 } _) ((p.drop off.toNat).drop size.toNat)
            (hE2.trans hEc) (by simp only [List.length_drop]; omega)).prepend _
        · exact .inl ⟨rfl, fun _ => rfl⟩

theorem read_end_setE (cfg : Cfg) (st : State) :
    ChunkSigned.read cfg (setE true st) [] true 0 = ChunkSigned.read cfg st [] true 0 := by
  unfold ChunkSigned.read setE
  simp

theorem EofRel.run_end {rF rT : Res} (h : EofRel rF rT) (cfg : Cfg) (acc : Bytes) :
    (tail cfg rT [] acc).1 = (tail cfg rF [] acc).1 ∧
    ((tail cfg rT [] acc).2 = (tail cfg rF [] acc).2 ∨
     ((tail cfg rT [] acc).2 = .err .invalidFormat ∧ (tail cfg rF [] acc).2 = .err .unexpectedEOF)) := by
  rcases h with ⟨h1, h2⟩ | ⟨h1, h2, h3⟩
  · have : tail cfg rT [] acc = tail cfg rF [] acc := by
      by_cases hst : rF.2.status = .nil
      · rw [tail_nil hst, tail_nil (h1 ▸ hst), h2 hst, h1, runFrom, runFrom, read_end_setE]
      · exact tail_not_nil cfg _ _ _ h1 (h1 ▸ hst)
    rw [this]
    exact ⟨rfl, .inl rfl⟩
  · have hT : tail cfg rT [] acc = (acc ++ rF.2.out, .err .invalidFormat) := by
      unfold tail; rw [h2]
    rw [hT, tail_nil h1, runFrom_nil cfg _ _ (by omega)]
    exact ⟨rfl, .inr ⟨rfl, rfl⟩⟩

theorem oneshot_eof_mode (cfg : Cfg) (st : State) (s : Bytes) (hmax : (s.length : Int) ≤ intMax) :
    (runFrom cfg st [(s, true)] []).1 = (runFrom cfg st [(s, false)] []).1 ∧
    ((runFrom cfg st [(s, true)] []).2 = (runFrom cfg st [(s, false)] []).2 ∨
     ((runFrom cfg st [(s, true)] []).2 = .err .invalidFormat ∧ (runFrom cfg st [(s, false)] []).2 = .err .unexpectedEOF)) := by
  rw [runFrom_cons, runFrom_cons]
  by_cases hneg : st.chunkDataLeft < 0
  · rw [tail_not_nil cfg [] [] [] ((read_neg cfg st s true _ hneg).trans (read_neg cfg st s false _ hneg).symm)
      (by rw [read_neg cfg st s true _ hneg]; simp)]
    exact ⟨rfl, .inl rfl⟩
  have h0 : 0 ≤ st.chunkDataLeft := by omega
  rw [tail_read cfg st s true _ (s.length + 1) [] [] h0 (by omega) (fun _ => rfl),
    tail_read cfg st s false _ (s.length + 1) [] [] h0 (by omega) nofun]
  unfold dataPhase
  split
  · exact ((par_eof_mode cfg (s.length + 1)
      (hashWrite cfg { setE false st with chunkDataLeft := 0 } (s.take st.chunkDataLeft.toNat))
      (s.drop st.chunkDataLeft.toNat) rfl (by simp only [List.length_drop]; omega)).prepend _).run_end cfg []
  · exact ⟨rfl, .inl rfl⟩

end Vgw.Lemmas.ChunkEof
