/-
  Lemmas about Model.Conc, linearizability: the invariant that ties the replay of the linearization
  points on the register to the filesystem state (`LInv`), over all runs, and from it `Linearizable`
  for the history of every run (publication that keeps the name, reads through the descriptor).
-/
import Vgw.Lemmas.ConcLin
namespace Vgw.Model.Conc
open Vgw.Spec.Register

/-- the shape of a request, by kind. -/
structure KindInv (c : Cfg) (fs : FS) (rq : Req) (l : Local) : Prop where
  w : rq.kind.isWrite = true → WState l
  d : rq.kind = .delete → DState l
  r : rq.kind.isRead = true → FdState c fs rq l

theorem kind_trichotomy (rq : Req) : rq.kind.isWrite = true ∨ rq.kind = .delete ∨ rq.kind.isRead = true := by
  cases rq.kind <;> simp [Kind.isWrite, Kind.isRead]

/-- a writer past its publication step has its complete object in the inode table. -/
def PastPointPublished (fs : FS) (rq : Req) (l : Local) : Prop :=
  rq.kind.isWrite = true → passed l → written rq ∈ fs.inodes

theorem PastPointPublished_own {c : Cfg} {rq : Req} {fs : FS} {l : Local} {a : Act} {rest : List Act}
    (hW : rq.kind.isWrite = true → WState l) (hR : RInv rq l) (A : PastPointPublished fs rq l) (hp : l.prog = a :: rest) :
    PastPointPublished (after c rq fs l a rest).1 rq (after c rq fs l a rest).2 := by
  intro hw hpass
  have F := facts_writer (c := c) (fs := fs) hw (hW hw) hR hp
  generalize isLin a fs.key = lin at F
  cases F with
  | point _ _ hc _ =>
    rw [opOf_write hw] at hc
    obtain ⟨k, _, hk⟩ := Option.bind_eq_some_iff.1 hc
    exact List.mem_of_getElem? hk
  | quiet hsame _ _ =>
    obtain ⟨ext, hext⟩ := execAct_inodes_mono c rq fs { l with prog := rest } a
    rw [after_fst, hext]
    exact List.mem_append_left _ (A hw (hsame.1 hpass))

theorem KindInv_reach {c : Cfg} {fs0 : FS} {rqs : List Req} {s : State} (hs : keepsNameStrat c.strat)
    (hm : c.rmode = .byFd) (h0 : KeyLast fs0) (h : Reach c (init c fs0 rqs) s) :
    GInv fs0 rqs s ∧
      ∀ (i : Nat) (rq : Req) (l : Local), s.reqs[i]? = some (rq, l) → KindInv c s.fs rq l ∧ PastPointPublished s.fs rq l :=
  have key := reach_init (G := fun _ => True) (P := fun _ fs rq l => KindInv c fs rq l ∧ PastPointPublished fs rq l)
    (fun _ _ fs' _ _ ⟨ext, he⟩ hP =>
      ⟨⟨hP.1.w, hP.1.d, fun hrd => FdState_mono (hP.1.r hrd) ext he⟩,
        fun hw hpass => by rw [he]; exact List.mem_append_left _ (hP.2 hw hpass)⟩)
    (fun _ _ _ _ _ _ _ g hR _ hP hp =>
      ⟨trivial, ⟨fun hw => WState_own hw (hP.1.w hw) hp, fun hd => DState_own hd (hP.1.d hd) hp,
        fun hrd => FdState_own hm g.last hrd (hP.1.r hrd) hp⟩, PastPointPublished_own hP.1.w hR hP.2 hp⟩)
    trivial
    (fun _ rq _ =>
      ⟨⟨fun hw => program_writer_shape c rq hs hw, fun hd => .d0 (by simp only [program, hd]) rfl,
        fun _ => .fresh rfl rfl rfl rfl⟩, fun _ hpass => absurd hpass (not_passed_init c rq hs hm)⟩) h0 h
  ⟨key.1, key.2.2⟩

def replayIds (rqs : List Req) (st : Option Inode) (ids : List Nat) : Option Inode :=
  ids.foldl (fun st i => match rqs[i]? with | some rq => next st (opOf rq) | none => st) st

theorem replayIds_append (rqs : List Req) (st : Option Inode) (xs : List Nat) (i : Nat) :
    replayIds rqs st (xs ++ [i]) = match rqs[i]? with
      | some rq => next (replayIds rqs st xs) (opOf rq)
      | none => replayIds rqs st xs := by
  rw [replayIds, List.foldl_append]; rfl

/-- The simulation invariant. `ids`: a request is among the points iff it has passed its point; `reg`:
    replaying the points on the register gives what the key holds; `prom`: each point's request keeps
    its promise against the replay of the points before it; `ret`: a point is not later than the response. -/
structure LInv (fs0 : FS) (rqs : List Req) (s : State) : Prop where
  ids : ∀ i rq l, s.reqs[i]? = some (rq, l) → (i ∈ (ptsT s.trace).map (·.2) ↔ passed l)
  valid : ∀ p ∈ ptsT s.trace, p.2 < s.reqs.length
  nodup : ((ptsT s.trace).map (·.2)).Nodup
  reg : replayIds rqs fs0.cur ((ptsT s.trace).map (·.2)) = s.fs.cur
  prom : ∀ σ₁ p rq l, σ₁ ++ [p] <+: ptsT s.trace → s.reqs[p.2]? = some (rq, l) →
           Promise s.fs rq l (replayIds rqs fs0.cur (σ₁.map (·.2)))
  ret : ∀ p ∈ ptsT s.trace, ∀ T, retT p.2 s.trace = some T → p.1 ≤ T

theorem Promise_mono {c : Cfg} {fs fs' : FS} {rq : Req} {l : Local} {st : Option Inode} (ext : List Inode)
    (hF : rq.kind.isRead = true → FdState c fs rq l) (hext : fs'.inodes = fs.inodes ++ ext)
    (h : Promise fs rq l st) : Promise fs' rq l st := by
  rcases kind_trichotomy rq with hw | hd | hrd
  · exact Promise_write hw _ _ _
  · exact (Promise_delete hd _ _ _).2 ((Promise_delete hd _ _ _).1 h)
  · -- the descriptor of a reader denotes an inode of the table, which keeps its index
    rw [Promise_read hrd] at h ⊢
    rw [h]
    have up : ∀ k ino, l.fd = some k → fs.inodes[k]? = some ino → l.fd.bind (fs.inodes[·]?) = l.fd.bind (fs'.inodes[·]?) := by
      intro k ino a1 a2
      rw [a1, Option.bind_some, Option.bind_some, hext, List.getElem?_append_left (List.getElem?_eq_some_iff.1 a2).1]
    cases hF hrd with
    | fresh _ _ _ a4 => rw [a4]; rfl
    | failed _ _ a3 => rw [a3]; rfl
    | running k ino a1 a2 => exact up k ino a1 a2
    | answered k ino a1 a2 => exact up k ino a1 a2

/-- request `i` goes from `l` to `l'`, the others stay, the event `e` of `i` is recorded. -/
structure ReqStep (s s' : State) (i : Nat) (rq : Req) (l l' : Local) (e : Ev) : Prop where
  old : s.reqs[i]? = some (rq, l)
  new : s'.reqs[i]? = some (rq, l')
  other : ∀ j, j ≠ i → s'.reqs[j]? = s.reqs[j]?
  trace : s'.trace = e :: s.trace
  rid : e.rid = i

section
variable {fs0 : FS} {rqs : List Req} {s s' : State} {i : Nat} {rq : Req} {l l' : Local} {e : Ev} {lin : Bool}

theorem ReqStep_ptsT (S : ReqStep s s' i rq l l' e) :
    ptsT s'.trace = ptsT s.trace ++ if isLinEv e then [(s.trace.length, i)] else [] := by
  rw [S.trace, ptsT_cons, S.rid]

theorem LInv_ids_step (L : LInv fs0 rqs s) (S : ReqStep s s' i rq l l' e)
    (hlin : isLinEv e = lin) (hpass : passed l' ↔ passed l ∨ lin = true) (j : Nat) (rqj : Req) (lj : Local)
    (hj : s'.reqs[j]? = some (rqj, lj)) : j ∈ (ptsT s'.trace).map (·.2) ↔ passed lj := by
  subst hlin
  have hnew : j ∈ (if isLinEv e then [(s.trace.length, i)] else []).map (·.2) ↔ isLinEv e = true ∧ j = i := by
    cases isLinEv e <;> simp
  rw [ReqStep_ptsT S, List.map_append, List.mem_append, hnew]
  by_cases hji : j = i
  · subst hji
    rw [S.new] at hj; cases hj
    rw [L.ids j rq l S.old, hpass]
    exact or_congr_right ⟨fun h => h.1, fun h => ⟨h, rfl⟩⟩
  · rw [S.other j hji] at hj
    rw [L.ids j rqj lj hj]
    exact ⟨fun h => h.resolve_right fun h => hji h.2, .inl⟩

theorem LInv_nodup_step (L : LInv fs0 rqs s) (S : ReqStep s s' i rq l l' e)
    (hlin : isLinEv e = lin) (hbefore : lin = true → ¬ passed l) : ((ptsT s'.trace).map (·.2)).Nodup := by
  subst hlin
  rw [ReqStep_ptsT S]
  cases hlin : isLinEv e
  · rw [if_neg Bool.false_ne_true, List.append_nil]; exact L.nodup
  · rw [if_pos rfl, List.map_append, List.nodup_append]
    refine ⟨L.nodup, by simp, fun x hx y hy hxy => ?_⟩
    cases List.mem_singleton.1 hy
    have hxi : x = i := hxy
    exact hbefore hlin ((L.ids i rq l S.old).1 (hxi ▸ hx))

theorem LInv_reg_step (L : LInv fs0 rqs s) (S : ReqStep s s' i rq l l' e) (hrqs : rqs[i]? = some rq)
    (hlin : isLinEv e = lin) (hcur : s'.fs.cur = if lin then next s.fs.cur (opOf rq) else s.fs.cur) :
    replayIds rqs fs0.cur ((ptsT s'.trace).map (·.2)) = s'.fs.cur := by
  subst hlin
  rw [ReqStep_ptsT S, hcur]
  cases isLinEv e
  · rw [if_neg Bool.false_ne_true, if_neg Bool.false_ne_true, List.append_nil]; exact L.reg
  · rw [if_pos rfl, if_pos rfl, List.map_append, List.map_singleton, replayIds_append, hrqs, L.reg]

/-- the stepping request keeps its promise by `hself`, the others by `hmono`. -/
theorem LInv_prom_step (L : LInv fs0 rqs s) (S : ReqStep s s' i rq l l' e)
    (hmono : ∀ j rqj lj st, j ≠ i → s.reqs[j]? = some (rqj, lj) → Promise s.fs rqj lj st → Promise s'.fs rqj lj st)
    (hlin : isLinEv e = lin) (hself : lin = false → ∀ st, Promise s.fs rq l st → Promise s'.fs rq l' st)
    (hpoint : lin = true → ¬ passed l ∧ Promise s'.fs rq l' s.fs.cur)
    (σ₁ : List (Nat × Nat)) (p : Nat × Nat) (rqp : Req) (lp : Local) (hpre : σ₁ ++ [p] <+: ptsT s'.trace)
    (hpq : s'.reqs[p.2]? = some (rqp, lp)) : Promise s'.fs rqp lp (replayIds rqs fs0.cur (σ₁.map (·.2))) := by
  subst hlin
  have hold : σ₁ ++ [p] <+: ptsT s.trace → (p.2 = i → isLinEv e = false) →
      Promise s'.fs rqp lp (replayIds rqs fs0.cur (σ₁.map (·.2))) := by
    intro hs' hq
    by_cases hpi : p.2 = i
    · rw [hpi, S.new] at hpq; cases hpq
      exact hself (hq hpi) _ (L.prom σ₁ p rq l hs' (by rw [hpi]; exact S.old))
    · rw [S.other _ hpi] at hpq
      exact hmono _ _ _ _ hpi hpq (L.prom σ₁ p rqp lp hs' hpq)
  rw [ReqStep_ptsT S] at hpre
  cases hlin : isLinEv e
  · rw [hlin, if_neg Bool.false_ne_true, List.append_nil] at hpre
    exact hold hpre fun _ => hlin
  · rw [hlin, if_pos rfl] at hpre
    rcases List.prefix_concat_iff.1 hpre with heq | hpre
    · obtain ⟨rfl, rfl⟩ := List.append_singleton_inj.1 heq
      rw [S.new] at hpq; cases hpq
      rw [L.reg]; exact (hpoint hlin).2
    · refine hold hpre fun hpi => absurd ((L.ids i rq l S.old).1 ?_) (hpoint hlin).1
      exact hpi ▸ List.mem_map.2 ⟨p, List.IsPrefix.mem (List.mem_append_right _ List.mem_cons_self) hpre, rfl⟩

theorem LInv_valid_ret_step (L : LInv fs0 rqs s) (S : ReqStep s s' i rq l l' e) (hlen : s'.reqs.length = s.reqs.length)
    (hopen : ∀ T, retT i s.trace ≠ some T) :
    (∀ p ∈ ptsT s'.trace, p.2 < s'.reqs.length) ∧ ∀ p ∈ ptsT s'.trace, ∀ T, retT p.2 s'.trace = some T → p.1 ≤ T := by
  have hlt : i < s.reqs.length := (List.getElem?_eq_some_iff.1 S.old).1
  constructor
  · intro p hpm
    rw [S.trace] at hpm
    rw [hlen]
    rcases mem_ptsT_cons hpm with h1 | ⟨_, rfl⟩
    · exact L.valid p h1
    · exact S.rid ▸ hlt
  · intro p hpm T hT
    rw [S.trace] at hpm
    rw [S.trace, retT_cons] at hT
    rcases mem_ptsT_cons hpm with h1 | ⟨_, rfl⟩
    · split at hT
      · cases hT; exact Nat.le_of_lt (ptsT_lt _ p h1)
      · exact L.ret p h1 T hT
    · split at hT
      · cases hT; exact Nat.le_refl _
      · exact absurd (S.rid ▸ hT) (hopen T)

end

theorem LInv_step {c : Cfg} {fs0 : FS} {rqs : List Req} {s s' : State} {i : Nat}
    (hm : c.rmode = .byFd) (g : GInv fs0 rqs s)
    (K : ∀ (i : Nat) (rq : Req) (l : Local), s.reqs[i]? = some (rq, l) → KindInv c s.fs rq l)
    (hfin : ∀ (i : Nat) (rq : Req) (l : Local) (T : Nat), s.reqs[i]? = some (rq, l) → retT i s.trace = some T → l.prog = [])
    (L : LInv fs0 rqs s) (h : step c s i = some s') : LInv fs0 rqs s' := by
  obtain ⟨rq, l, a, rest, hr, hp, hfs, hreqs, htr⟩ := step_spec h
  obtain ⟨ext, hext⟩ := execAct_inodes_mono c rq s.fs { l with prog := rest } a
  rw [← after_fst, ← hfs] at hext
  have hlt : i < s.reqs.length := (List.getElem?_eq_some_iff.1 hr).1
  have S : ReqStep s s' i rq l (after c rq s.fs l a rest).2 ⟨i, a, s.fs.key, s'.fs.key, (after c rq s.fs l a rest).2.done⟩ :=
    ⟨hr, by rw [hreqs, List.getElem?_set_self hlt], fun j hj => by rw [hreqs, List.getElem?_set_ne (Ne.symm hj)], htr, rfl⟩
  have F : StepFacts rq l (after c rq s.fs l a rest).2 s.fs s'.fs (isLin a s.fs.key) := by
    rw [hfs]
    rcases kind_trichotomy rq with hw | hd | hrd
    · exact facts_writer hw ((K i rq l hr).w hw) (g.rinv _ (List.mem_of_getElem? hr)) hp
    · exact facts_delete hd ((K i rq l hr).d hd) hp
    · exact facts_reader hm hrd ((K i rq l hr).r hrd) hp
  have hmono : ∀ j rqj lj st, j ≠ i → s.reqs[j]? = some (rqj, lj) → Promise s.fs rqj lj st → Promise s'.fs rqj lj st :=
    fun j rqj lj st _ hj hP => Promise_mono ext (K j rqj lj hj).r hext hP
  obtain ⟨hvalid, hret⟩ := LInv_valid_ret_step L S (by rw [hreqs, List.length_set]) fun T hT => by
    have := hfin i rq l T hr hT; rw [hp] at this; cases this
  generalize hlin : isLin a s.fs.key = lin at F
  have hlin' : isLinEv ⟨i, a, s.fs.key, s'.fs.key, (after c rq s.fs l a rest).2.done⟩ = lin := hlin
  cases F with
  | quiet hsame hcur hprom =>
    exact ⟨LInv_ids_step L S hlin' (hsame.trans ⟨.inl, fun h => h.resolve_right Bool.false_ne_true⟩), hvalid,
      LInv_nodup_step L S hlin' nofun, LInv_reg_step L S (g.reqs i rq l hr) hlin' hcur,
      LInv_prom_step L S hmono hlin' (fun _ => hprom) nofun, hret⟩
  | point hbefore hafter hcur hprom =>
    exact ⟨LInv_ids_step L S hlin' ⟨fun _ => .inr rfl, fun _ => hafter⟩, hvalid,
      LInv_nodup_step L S hlin' fun _ => hbefore, LInv_reg_step L S (g.reqs i rq l hr) hlin' hcur,
      LInv_prom_step L S hmono hlin' nofun (fun _ => ⟨hbefore, hprom⟩), hret⟩

theorem histOf_get (rqs : List Req) (s : State) (i : Nat) : (histOf rqs s)[i]? = (rqs[i]?).map (evOf s i) := by
  simp [histOf, List.getElem?_mapIdx]

theorem answer_admitted {c : Cfg} {fs : FS} {rq : Req} {l : Local} {st : Option Inode} {r : Resp} {a : Res ReadResp}
    (K : KindInv c fs rq l) (hP : Promise fs rq l st)
    (hdone : l.prog = []) (hr : l.result = some r) (ha : resOf r = some a) :
    admits observe st (opOf rq) a = true := by
  rcases kind_trichotomy rq with hw | hd | hrd
  · have hres := (K.w hw).res.2 hdone
    rcases hres with h1 | h1
    · rw [h1] at hr; cases hr; cases ha; rw [opOf_write hw]; rfl
    · rw [h1] at hr; cases hr; cases ha
  · have hP' := (Promise_delete hd fs l st).1 hP
    rw [opOf_delete hd]
    cases K.d hd with
    | d0 q _ => rw [q] at hdone; cases hdone
    | d1 q _ => rw [q] at hdone; cases hdone
    | d3 q _ => rw [q] at hdone; cases hdone
    | d2 _ q => rw [q] at hr; cases hr; cases ha; rfl
    | d4 _ q => rw [q] at hr; cases hr; cases ha; rw [hP' q]; rfl
  · have hP' := (Promise_read hrd fs l st).1 hP
    rw [opOf_read hrd]
    cases K.r hrd with
    | fresh _ _ q _ => rw [q] at hr; cases hr
    | running _ _ _ _ q => rw [q] at hr; cases hr
    | failed _ q1 q2 => rw [q1] at hr; cases hr; cases ha; rw [hP', q2]; rfl
    | answered k ino q1 q2 _ q4 =>
      rw [q4] at hr; cases hr; cases ha
      rw [hP', q1, Option.bind_some, q2]; exact decide_eq_true rfl

theorem resp_done {s : State} {i : Nat} {r : Resp} (h : s.resp i = some r) :
    ∃ rq l, s.reqs[i]? = some (rq, l) ∧ l.prog = [] ∧ l.result = some r := by
  unfold State.resp at h
  split at h
  · rename_i rq l hr
    split at h
    · rename_i hd; exact ⟨rq, l, hr, by simpa [Local.done] using hd, h⟩
    · cases h
  · cases h

theorem LInv_point_req {fs0 : FS} {rqs : List Req} {s : State} (L : LInv fs0 rqs s) (g : GInv fs0 rqs s)
    {p : Nat × Nat} (hp : p ∈ ptsT s.trace) :
    ∃ rq l, s.reqs[p.2]? = some (rq, l) ∧ (histOf rqs s)[p.2]? = some (evOf s p.2 rq) := by
  have hlt := L.valid p hp
  obtain ⟨rq, l, hrl⟩ : ∃ rq l, s.reqs[p.2]'hlt = (rq, l) := ⟨_, _, rfl⟩
  have hreq : s.reqs[p.2]? = some (rq, l) := hrl ▸ List.getElem?_eq_getElem hlt
  exact ⟨rq, l, hreq, by rw [histOf_get, g.reqs _ _ _ hreq]; rfl⟩

theorem evOf_answer (s : State) (i : Nat) (rq : Req) :
    (evOf s i rq).ret = none ∨
    ∃ r a, s.resp i = some r ∧ resOf r = some a ∧ (evOf s i rq).res = a ∧ (evOf s i rq).ret = retT i s.trace := by
  unfold evOf
  cases hr : s.resp i with
  | none => exact .inl rfl
  | some r =>
    cases ha : resOf r with
    | none => exact .inl (by simp [ha])
    | some a => exact .inr ⟨r, a, rfl, ha, by simp [ha], by simp [ha]⟩

theorem linearizable_of_inv {c : Cfg} {fs0 : FS} {rqs : List Req} {s : State}
    (g : GInv fs0 rqs s)
    (K : ∀ (i : Nat) (rq : Req) (l : Local), s.reqs[i]? = some (rq, l) → KindInv c s.fs rq l) (L : LInv fs0 rqs s) :
    Linearizable observe fs0.cur (histOf rqs s) := by
  refine ⟨ptsT s.trace, ptsT_sorted _, L.nodup, ?_, ?_, ?_⟩
  · intro p hp
    obtain ⟨rq, l, _, hev⟩ := LInv_point_req L g hp
    refine ⟨_, hev, ?_, fun r hr => ?_⟩
    · obtain ⟨t0, h0, hle⟩ := ptsT_inv s.trace p hp
      simp only [evOf, h0, Option.getD_some]; exact hle
    · rcases evOf_answer s p.2 rq with h | ⟨_, _, _, _, _, h⟩ <;> rw [h] at hr
      · cases hr
      · exact L.ret p hp r hr
  · intro i e hi hret
    rw [histOf_get] at hi
    obtain ⟨rq, _, rfl⟩ := Option.map_eq_some_iff.1 hi
    rcases evOf_answer s i rq with h | ⟨r, _, hresp, _⟩
    · exact absurd h hret
    · obtain ⟨rq', l, hi', hdone, _⟩ := resp_done hresp
      exact (L.ids i rq' l hi').2 (passed_of_done hdone)
  · -- the replay admits every answer
    have key : ∀ (σ pre : List (Nat × Nat)), ptsT s.trace = pre ++ σ →
        accepts observe (replayIds rqs fs0.cur (pre.map (·.2))) (σ.filterMap fun p => (histOf rqs s)[p.2]?) = true := by
      intro σ
      induction σ with
      | nil => intro pre _; rfl
      | cons p σ ih =>
        intro pre hsplit
        obtain ⟨rq, l, hreq, hev⟩ := LInv_point_req L g (p := p) (hsplit ▸ List.mem_append_right _ List.mem_cons_self)
        have hrqs : rqs[p.2]? = some rq := g.reqs _ _ _ hreq
        rw [List.filterMap_cons, hev]
        simp only [accepts, Bool.and_eq_true, Bool.or_eq_true]
        constructor
        · rcases evOf_answer s p.2 rq with h | ⟨r, a, hresp, ha, hres, _⟩
          · exact .inl (by rw [h]; rfl)
          · obtain ⟨rq', l', hi', hdone, hr⟩ := resp_done hresp
            rw [hreq] at hi'; cases hi'
            rw [hres]
            exact .inr (answer_admitted (K p.2 rq l hreq)
              (L.prom pre p rq l ⟨σ, by rw [hsplit, List.append_assoc]; rfl⟩ hreq) hdone hr ha)
        · have := ih (pre ++ [p]) (by rw [hsplit, List.append_assoc]; rfl)
          rw [List.map_append, List.map_cons, List.map_nil, replayIds_append, hrqs] at this
          exact this
    exact key (ptsT s.trace) [] rfl

theorem LInv_reach {c : Cfg} {fs0 : FS} {rqs : List Req} {s : State} (hs : keepsNameStrat c.strat)
    (hm : c.rmode = .byFd) (h0 : KeyLast fs0) (h : Reach c (init c fs0 rqs) s) : LInv fs0 rqs s := by
  induction h with
  | refl =>
    refine ⟨fun i rq l hi => ?_, nofun, List.nodup_nil, rfl, fun σ₁ p rq l h => ?_, nofun⟩
    · obtain ⟨_, rfl⟩ := init_reqs hi
      exact ⟨nofun, fun hp => absurd hp (not_passed_init c rq hs hm)⟩
    · cases σ₁ <;> cases List.prefix_nil.1 h
  | step hprev hstep ih =>
    obtain ⟨g, K⟩ := KindInv_reach hs hm h0 hprev
    exact LInv_step hm g (fun i rq l hi => (K i rq l hi).1) (retT_finished rfl hprev) ih hstep

end Vgw.Model.Conc
