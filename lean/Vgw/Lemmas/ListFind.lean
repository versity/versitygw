/-
  `find?` on a list read as a finite map by a key of its elements, and through `filter`.
-/
namespace Vgw
universe u v
variable {α : Type u} {κ : Type v}

theorem find?_filter_of_imp {p q : α → Bool} (l : List α) (h : ∀ x, q x = true → p x = true) :
    (l.filter p).find? q = l.find? q := by
  rw [List.find?_filter]
  congr 1; funext x
  cases hq : q x
  · simp
  · simp [h x hq]

theorem find?_filter_of_not {p q : α → Bool} (l : List α) (h : ∀ x, q x = true → p x = false) :
    (l.filter p).find? q = none :=
  List.find?_eq_none.mpr fun x hx hq => by
    rw [List.mem_filter, h x hq] at hx
    exact Bool.false_ne_true hx.2

theorem eq_of_map_eq {f : α → κ} {l : List α} (hnd : (l.map f).Nodup) {a b : α} (ha : a ∈ l) (hb : b ∈ l)
    (h : f a = f b) : a = b :=
  have hp : l.Pairwise (fun x y => f x ≠ f y) := List.pairwise_map.mp hnd
  List.Pairwise.forall_of_forall_of_flip (R := fun x y => f x = f y → x = y) (fun _ _ _ => rfl)
    (hp.imp fun hne e => absurd e hne) (hp.imp fun hne e => absurd e.symm hne) ha hb h

variable [BEq κ] [LawfulBEq κ]

theorem find?_key_some {key : α → κ} {l : List α} {k : κ} {a : α} (h : l.find? (fun x => key x == k) = some a) :
    a ∈ l ∧ key a = k :=
  ⟨List.mem_of_find?_eq_some h, eq_of_beq (List.find?_some (p := fun x => key x == k) h)⟩

theorem find?_key_of_nodup (f : α → κ) :
    ∀ {l : List α}, (l.map f).Nodup → ∀ {a : α}, a ∈ l → l.find? (fun x => f x == f a) = some a
  | x :: l, hnd, a, ha => by
    rw [List.map_cons, List.nodup_cons] at hnd
    rw [List.find?_cons]
    rcases List.mem_cons.mp ha with rfl | ha
    · rw [beq_self_eq_true]
    · have hne : (f x == f a) = false := beq_false_of_ne fun h => hnd.1 (h ▸ List.mem_map_of_mem ha)
      rw [hne]
      exact find?_key_of_nodup f hnd.2 ha

end Vgw
