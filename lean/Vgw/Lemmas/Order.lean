/-
  The bytewise order `blt` (Go's `<` on strings) decides core's lexicographic order on byte lists;
  its interplay with prefixes and concatenation; `sortDedup`.
-/
import Vgw.Go.StrOrder
namespace Vgw

@[simp] theorem blt_nil_right (a : Bytes) : blt a [] = false := by cases a <;> rfl
@[simp] theorem blt_nil_cons (b : UInt8) (bs : Bytes) : blt [] (b :: bs) = true := rfl
theorem blt_cons_cons (a : UInt8) (as : Bytes) (b : UInt8) (bs : Bytes) :
    blt (a :: as) (b :: bs) = if a < b then true else if a = b then blt as bs else false := rfl

theorem blt_iff_lt : ∀ a b : Bytes, blt a b = true ↔ a < b
  | _, [] => by simp
  | [], _ :: _ => by simp
  | a :: as, b :: bs => by
    rw [blt_cons_cons, List.cons_lt_cons_iff, ← blt_iff_lt as bs]
    by_cases hab : a < b
    · simp [hab]
    · by_cases he : a = b <;> simp [hab, he]

theorem blt_irrefl (a : Bytes) : blt a a = false :=
  Bool.eq_false_iff.2 fun h => List.lt_irrefl a ((blt_iff_lt a a).1 h)

theorem blt_asymm (a b : Bytes) (h : blt a b = true) : blt b a = false :=
  Bool.eq_false_iff.2 fun h' => List.lt_asymm ((blt_iff_lt a b).1 h) ((blt_iff_lt b a).1 h')

theorem blt_trans (a b c : Bytes) (h1 : blt a b = true) (h2 : blt b c = true) : blt a c = true :=
  (blt_iff_lt a c).2 (List.lt_trans ((blt_iff_lt a b).1 h1) ((blt_iff_lt b c).1 h2))

theorem blt_trichotomy (a b : Bytes) : blt a b = true ∨ a = b ∨ blt b a = true := by
  rw [blt_iff_lt, blt_iff_lt]
  by_cases h : a < b
  · exact Or.inl h
  · exact Or.inr ((List.le_iff_lt_or_eq.1 (List.not_lt.1 h)).symm.imp Eq.symm id)

theorem blt_append_left : ∀ p a b : Bytes, blt (p ++ a) (p ++ b) = blt a b
  | [], _, _ => rfl
  | x :: p, a, b => by
    simp [blt_cons_cons, UInt8.lt_irrefl, blt_append_left p a b]

theorem ble_iff (a b : Bytes) : ble a b = true ↔ a = b ∨ blt a b = true := by
  unfold ble
  constructor
  · intro h
    rcases blt_trichotomy a b with h1 | h1 | h1
    · exact Or.inr h1
    · exact Or.inl h1
    · simp [h1] at h
  · rintro (rfl | h)
    · simp [blt_irrefl]
    · simp [blt_asymm a b h]

theorem ble_append_left (p a b : Bytes) : ble (p ++ a) (p ++ b) = ble a b := by
  unfold ble; rw [blt_append_left]

theorem ble_refl (a : Bytes) : ble a a = true := (ble_iff a a).2 (Or.inl rfl)

theorem not_ble (a b : Bytes) : ble a b = false ↔ blt b a = true := by
  unfold ble; cases blt b a <;> simp

theorem blt_of_blt_of_ble (a b c : Bytes) (h1 : blt a b = true) (h2 : ble b c = true) : blt a c = true := by
  rcases (ble_iff b c).1 h2 with rfl | h
  · exact h1
  · exact blt_trans a b c h1 h

theorem blt_of_ble_of_blt (a b c : Bytes) (h1 : ble a b = true) (h2 : blt b c = true) : blt a c = true := by
  rcases (ble_iff a b).1 h1 with rfl | h
  · exact h2
  · exact blt_trans a b c h h2

theorem ble_trans (a b c : Bytes) (h1 : ble a b = true) (h2 : ble b c = true) : ble a c = true := by
  rcases (ble_iff a b).1 h1 with rfl | h
  · exact h2
  · exact (ble_iff a c).2 (Or.inr (blt_of_blt_of_ble a b c h h2))

theorem ble_of_blt (a b : Bytes) (h : blt a b = true) : ble a b = true := (ble_iff a b).2 (Or.inr h)

theorem blt_ne (a b : Bytes) (h : blt a b = true) : a ≠ b := by
  rintro rfl; simp [blt_irrefl] at h

theorem ble_antisymm (a b : Bytes) (h1 : ble a b = true) (h2 : ble b a = true) : a = b := by
  rcases (ble_iff a b).1 h1 with h | h
  · exact h
  · unfold ble at h2; simp [h] at h2

theorem blt_append_right (a t : Bytes) (ht : t ≠ []) : blt a (a ++ t) = true := by
  have := blt_append_left a [] t
  rw [List.append_nil] at this
  rw [this]
  cases t with
  | nil => exact absurd rfl ht
  | cons x xs => rfl

theorem ble_of_prefix (a b : Bytes) (h : a <+: b) : ble a b = true := by
  obtain ⟨t, rfl⟩ := h
  cases t with
  | nil => simp [ble_refl]
  | cons x xs => exact ble_of_blt _ _ (blt_append_right a _ (by simp))

/-- `a < b` where `a` is not a prefix of `b`: the two differ inside both, so whatever is appended
to either keeps the order. -/
theorem blt_append_of_not_prefix : ∀ a b : Bytes, blt a b = true → ¬ a <+: b →
    ∀ t t' : Bytes, blt (a ++ t) (b ++ t') = true
  | _, [], h, _, _, _ => by simp at h
  | [], _ :: _, _, hp, _, _ => absurd List.nil_prefix hp
  | a :: as, b :: bs, h, hp, t, t' => by
    rw [blt_cons_cons] at h
    simp only [List.cons_append]
    rw [blt_cons_cons]
    by_cases hab : a < b
    · simp [hab]
    · simp only [hab, if_false] at h ⊢
      by_cases he : a = b
      · subst he
        simp only [if_true] at h ⊢
        exact blt_append_of_not_prefix as bs h (fun hp' => hp ((List.prefix_cons_inj a).2 hp')) t t'
      · simp [he] at h

theorem prefix_of_between (a b r : Bytes) (h1 : ble a b = true) (h2 : blt b (a ++ r) = true) : a <+: b := by
  rcases (ble_iff a b).1 h1 with rfl | h
  · exact List.prefix_refl _
  · apply Classical.byContradiction
    intro hp
    have := blt_append_of_not_prefix a b h hp r []
    simp only [List.append_nil] at this
    rw [blt_asymm _ _ this] at h2
    exact Bool.noConfusion h2

theorem blt_append_of_blt_not_prefix (a k : Bytes) (h : blt a k = true) (hp : ¬ a <+: k) (t : Bytes) :
    blt (a ++ t) k = true := by
  simpa using blt_append_of_not_prefix a k h hp t []

theorem mem_insertSorted (x : Bytes) : ∀ (l : List Bytes) (y : Bytes), y ∈ insertSorted x l ↔ y = x ∨ y ∈ l
  | [], y => by simp [insertSorted]
  | z :: zs, y => by
    unfold insertSorted
    split
    · simp
    · split
      · rename_i h; subst h; simp
      · rw [List.mem_cons, mem_insertSorted x zs y, List.mem_cons, or_left_comm]

theorem mem_sortDedup (l : List Bytes) (y : Bytes) : y ∈ sortDedup l ↔ y ∈ l := by
  induction l with
  | nil => simp [sortDedup]
  | cons x xs ih =>
    have : sortDedup (x :: xs) = insertSorted x (sortDedup xs) := rfl
    rw [this, mem_insertSorted, ih]; simp

theorem insertSorted_sorted (x : Bytes) : ∀ l : List Bytes, l.Pairwise (fun a b => blt a b = true) →
    (insertSorted x l).Pairwise (fun a b => blt a b = true)
  | [], _ => by simp [insertSorted]
  | z :: zs, h => by
    unfold insertSorted
    have hz := List.pairwise_cons.1 h
    split
    · rename_i hxz
      refine List.pairwise_cons.2 ⟨?_, h⟩
      intro y hy
      rcases List.mem_cons.1 hy with rfl | hy
      · exact hxz
      · exact blt_trans _ _ _ hxz (hz.1 y hy)
    · split
      · exact h
      · rename_i h1 h2
        refine List.pairwise_cons.2 ⟨?_, insertSorted_sorted x zs hz.2⟩
        intro y hy
        rcases (mem_insertSorted x zs y).1 hy with rfl | hy
        · rcases blt_trichotomy y z with h | h | h
          · simp [h] at h1
          · exact absurd h h2
          · exact h
        · exact hz.1 y hy

theorem sortDedup_sorted (l : List Bytes) : (sortDedup l).Pairwise (fun a b => blt a b = true) := by
  induction l with
  | nil => simp [sortDedup]
  | cons x xs ih => exact insertSorted_sorted x _ ih

theorem sortDedup_of_sorted : ∀ l : List Bytes, l.Pairwise (fun a b => blt a b = true) → sortDedup l = l
  | [], _ => rfl
  | x :: xs, h => by
    have hx := List.pairwise_cons.1 h
    have : sortDedup (x :: xs) = insertSorted x (sortDedup xs) := rfl
    rw [this, sortDedup_of_sorted xs hx.2]
    -- `x` is below the head of `xs`, if there is one
    cases xs with
    | nil => rfl
    | cons z zs => simp [insertSorted, hx.1 z (by simp)]

end Vgw
