/-
  ListUserAccounts: the sorted image is a listing of the plain map (`Spec.IAM.ListOk`), given
  that the image has one entry per key — which every image written by the gateway has.
-/
import Vgw.Lemmas.IAMLock
import Vgw.Lemmas.Order
import Vgw.Lemmas.ListFind
namespace Vgw.Model.IAM
open Vgw
open Vgw.Model.Gw (Account Role)

def keysNodup (s : Store) : Prop := (s.map (·.access)).Nodup

theorem mem_insertAcct (a : Account) : ∀ (l : List Account) (x : Account), x ∈ insertAcct a l ↔ x = a ∨ x ∈ l
  | [], x => by simp [insertAcct]
  | b :: rest, x => by
    unfold insertAcct
    split
    · simp only [List.mem_cons, mem_insertAcct a rest x]
      exact or_left_comm
    · simp

theorem sortAccts_cons (a : Account) (l : List Account) : sortAccts (a :: l) = insertAcct a (sortAccts l) := rfl

theorem mem_sortAccts (l : List Account) (x : Account) : x ∈ sortAccts l ↔ x ∈ l := by
  induction l with
  | nil => simp [sortAccts]
  | cons a rest ih => rw [sortAccts_cons, mem_insertAcct, ih, List.mem_cons]

abbrev AccLt (a b : Account) : Prop := blt a.access b.access = true

theorem insertAcct_sorted (a : Account) : ∀ l : List Account, l.Pairwise AccLt → (∀ x ∈ l, x.access ≠ a.access) →
    (insertAcct a l).Pairwise AccLt
  | [], _, _ => by simp [insertAcct]
  | b :: rest, hs, hne => by
    unfold insertAcct
    have hs' := List.pairwise_cons.mp hs
    split
    · rename_i hba
      refine List.pairwise_cons.mpr ⟨?_, insertAcct_sorted a rest hs'.2 (fun x hx => hne x (List.mem_cons_of_mem _ hx))⟩
      intro x hx
      rcases (mem_insertAcct a rest x).mp hx with h | h
      · rw [h]; exact hba
      · exact hs'.1 x h
    · rename_i hba
      have hab : blt a.access b.access = true := by
        rcases blt_trichotomy a.access b.access with h | h | h
        · exact h
        · exact absurd h.symm (hne b (by simp))
        · exact absurd h hba
      refine List.pairwise_cons.mpr ⟨?_, hs⟩
      intro x hx
      rcases List.mem_cons.mp hx with h | h
      · rw [h]; exact hab
      · exact blt_trans _ _ _ hab (hs'.1 x h)

theorem sortAccts_sorted : ∀ l : List Account, keysNodup l → (sortAccts l).Pairwise AccLt
  | [], _ => by simp [sortAccts]
  | a :: rest, hn => by
    rw [sortAccts_cons]
    have hn' : (a.access :: rest.map (·.access)).Nodup := hn
    have hn'' := List.nodup_cons.mp hn'
    refine insertAcct_sorted a _ (sortAccts_sorted rest hn''.2) ?_
    intro x hx hxa
    exact hn''.1 (by rw [← hxa]; exact List.mem_map_of_mem ((mem_sortAccts rest x).mp hx))

theorem find_iff_mem {l : List Account} (hn : keysNodup l) (k : Bytes) (a : Account) :
    Store.find l k = some a ↔ a ∈ l ∧ a.access = k :=
  ⟨find?_key_some (key := Account.access),
   fun ⟨hm, hk⟩ => hk ▸ find?_key_of_nodup Account.access hn hm⟩

theorem keysNodup_of_sorted {l : List Account} (h : l.Pairwise AccLt) : keysNodup l := by
  unfold keysNodup
  rw [List.nodup_iff_pairwise_ne, List.pairwise_map]
  exact h.imp (fun hab => blt_ne _ _ hab)

/-- the answer of ListUserAccounts is a listing of the map -/
theorem sortAccts_listOk (s : Store) (hn : keysNodup s) : Spec.IAM.ListOk (abs s) (sortAccts s) := by
  have hs := sortAccts_sorted s hn
  refine ⟨hs, fun k => ?_⟩
  rw [← abs_eq_ofList]
  exact Option.ext fun a => by rw [abs, abs, find_iff_mem (keysNodup_of_sorted hs), find_iff_mem hn, mem_sortAccts]

theorem keysNodup_del {s : Store} (h : keysNodup s) (k : Bytes) : keysNodup (s.del k) := by
  unfold keysNodup Store.del at *
  exact (List.filter_sublist.map _).nodup h

theorem keysNodup_put {s : Store} (h : keysNodup s) (a : Account) : keysNodup (s.put a) := by
  unfold keysNodup Store.put
  simp only [List.map_cons, List.nodup_cons]
  refine ⟨?_, keysNodup_del h a.access⟩
  intro hm
  obtain ⟨x, hx, hxa⟩ := List.mem_map.mp hm
  have := (List.mem_filter.mp hx).2
  simp [hxa] at this

theorem keysNodup_mutate {b b' : Store} {op : Op} (h : keysNodup b) (hm : mutate b op = .ok b') : keysNodup b' := by
  cases op with
  | create a => simp only [mutate] at hm; split at hm <;> cases hm; exact keysNodup_put h a
  | update k p => simp only [mutate] at hm; split at hm <;> cases hm; exact keysNodup_put h _
  | delete k => simp only [mutate] at hm; cases hm; exact keysNodup_del h k
  | get k => simp only [mutate] at hm; cases hm; exact h
  | list => simp only [mutate] at hm; cases hm; exact h

theorem keysNodup_act {v : Variant} {cfg : Cfg} {σ : State} (hW : Wf cfg σ) (h : keysNodup σ.committed) (a : Act) :
    keysNodup (act v cfg σ a).committed := by
  cases a with
  | step i =>
    refine stepAt_ind (P := fun σ' => keysNodup σ'.committed) h fun hi hs => ?_
    rcases hs.committed with he | rfl
    · exact he ▸ h
    · exact keysNodup_mutate h (hW.l.calls i _ hi).pc.1
  | tick n => exact h
  | gc => exact h
  | invoke op => exact h

theorem keysNodup_run {v : Variant} {cfg : Cfg} {σ : State} (hW : Wf cfg σ) (h : keysNodup σ.committed) (acts : List Act) :
    keysNodup (run v cfg σ acts).committed :=
  (run_induction (P := fun σ' => Wf cfg σ' ∧ keysNodup σ'.committed) acts ⟨hW, h⟩
    fun _ a _ h => ⟨h.1.act a, keysNodup_act h.1 h.2 a⟩).2

end Vgw.Model.IAM
