/- C20, part 1: the loops and auxiliary functions of the header / query parsers return on every input. -/
import Vgw.Lemmas.RobustChk
import Vgw.Model.Robust
import Vgw.Model.Range
namespace Vgw.Model.Robust
open Vgw Vgw.Go

theorem versionId_bounds (s : Bytes) (h : ¬ lastIndexOf versionIdLit s = -1) :
    0 ≤ lastIndexOf versionIdLit s ∧ lastIndexOf versionIdLit s + 11 ≤ s.length :=
  (lastIndexOf_range versionIdLit s).resolve_left h

theorem no_panic_copySourceSplit (h1 : Bytes) : noPanic (copySourceSplit h1) = true := by
  unfold copySourceSplit
  refine noPanic_guard fun hi => ?_
  have := versionId_bounds h1 hi
  exact noPanic_sliceTo_bind fun a => noPanic_sliceFrom_bind fun b => rfl

theorem parseCopySource_empty : noPanic (parseCopySource []) = false := rfl

theorem no_panic_objectTagsLoop (l : List Bytes) : ∀ acc, noPanic (objectTagsLoop l acc) = true := by
  induction l with
  | nil => intro acc; rfl
  | cons prt rest ih =>
    intro acc
    unfold objectTagsLoop
    refine noPanic_guard fun h => noPanic_idx_bind fun k0 => ?_
    split
    · rfl
    · refine noPanic_idx_bind fun v0 => ?_
      split
      · rfl
      · exact noPanic_guard fun _ => ih _

theorem no_panic_copyRangeEnd (size s : Int) (l : List Bytes) (h : l.length = 2) :
    noPanic (copyRangeEnd size s l) = true := by
  unfold copyRangeEnd
  refine noPanic_guard fun _ => noPanic_idx_bind fun b => noPanic_guard fun _ => noPanic_idx_bind fun b' => ?_
  split
  · rfl
  · exact noPanic_guard fun _ => noPanic_guard fun _ => rfl

/-- `Model.Range.Parse` read as a `GetRange` -/
def ofParse (p : Vgw.Model.Range.Parse) : GetRange := ⟨p.start, p.length, p.valid, p.err⟩

theorem getRangeEnd_refines (size s : Int) (a b : Bytes) :
    getRangeEnd size s [a, b] = .ok (ofParse (
      if s ≥ size then ⟨0, 0, false, true⟩ else
      if b = [] then ⟨s, size - s, true, false⟩ else
      match parseInt64 b with
      | none => ⟨0, size, false, false⟩
      | some e => if e < s then ⟨0, size, false, false⟩ else
        if e ≥ size then ⟨s, size - s, true, false⟩ else ⟨s, e - s + 1, true, false⟩)) := by
  unfold getRangeEnd
  simp only [idx_one_cons, Except.bind, apply_ite Except.ok, apply_ite ofParse]
  cases parseInt64 b with
  | none => rfl
  | some e => simp only [apply_ite Except.ok, apply_ite ofParse]; rfl

theorem setIdx_length {α : Type} (a b : List α) (i : Int) (v : α) (h : setIdx a i v = .ok b) : b.length = a.length := by
  unfold setIdx at h
  split at h
  · cases h; simp
  · cases h

theorem noPanic_setIdx {α : Type} {a : List α} {i : Int} (v : α) (h0 : 0 ≤ i) (h : i < a.length) :
    noPanic (setIdx a i v) = true := by
  unfold setIdx; rw [if_pos ⟨h0, by omega⟩]; rfl

/-- `i` counts the elements visited; an assignment keeps the length -/
theorem no_panic_stripLoop (rs : Bytes → Bytes) : ∀ (l : List Bytes) (i : Int) (cur : List Bytes),
    0 ≤ i → i + l.length ≤ cur.length → noPanic (stripLoop rs l i cur) = true := by
  intro l
  induction l with
  | nil => intro i cur _ _; rfl
  | cons el rest ih =>
    intro i cur h0 hlen
    rw [List.length_cons] at hlen
    unfold stripLoop
    refine noPanic_bind (noPanic_ite (fun _ => noPanic_setIdx _ h0 (by omega)) fun _ => rfl) fun cur' hc => ?_
    have : cur'.length = cur.length := by
      split at hc
      · exact setIdx_length _ _ _ _ hc
      · cases hc; rfl
    exact ih _ _ (by omega) (by omega)

theorem no_panic_credScope (value : Bytes) : noPanic (credScope value) = true := by
  unfold credScope
  refine noPanic_guard fun h => ?_
  have h5 : (splitOn 47 value).length = 5 := Decidable.not_not.mp h
  refine noPanic_idx_bind fun c3 => noPanic_guard fun _ => ?_
  refine noPanic_idx_bind fun c4 => noPanic_guard fun _ => ?_
  refine noPanic_idx_bind fun c1 => noPanic_guard fun _ => ?_
  exact noPanic_idx_bind fun a => noPanic_idx_bind fun d => noPanic_idx_bind fun r => rfl

theorem no_panic_kvLoop (l : List Bytes) : ∀ c, noPanic (kvLoop l c) = true := by
  induction l with
  | nil => intro c; rfl
  | cons kv rest ih =>
    intro c
    unfold kvLoop
    refine noPanic_ite (fun _ => noPanic_guard fun _ => noPanic_guard fun _ => rfl) fun h => ?_
    have h2 : (splitOn 61 kv).length = 2 := Decidable.not_not.mp h
    refine noPanic_idx_bind fun k0 => noPanic_idx_bind fun v0 => noPanic_ite (fun _ => ?_) fun _ => ?_
    · refine noPanic_bind (no_panic_credScope _) fun s _ => ?_
      split
      · rfl
      · exact ih _
    · exact noPanic_ite (fun _ => ih _) fun _ => noPanic_ite (fun _ => ih _) fun _ => ih _

theorem no_panic_parseAuthParts (p : List Bytes) : noPanic (parseAuthParts p) = true := by
  unfold parseAuthParts
  refine noPanic_guard fun h => ?_
  have h2 : 2 ≤ p.length := Nat.not_lt.mp h
  refine noPanic_idx_bind fun algo => noPanic_guard fun _ => ?_
  refine noPanic_idx_bind fun kvData => noPanic_guard fun _ => noPanic_bind (no_panic_kvLoop _ _) fun r _ => ?_
  cases r <;> rfl

theorem no_panic_presignedTail (q : PresignQuery) (creds : List Bytes) (h5 : creds.length = 5) (region : Bytes)
    (passed : Int) : noPanic (presignedTail q creds region passed) = true := by
  unfold presignedTail
  refine noPanic_guard fun _ => noPanic_guard fun hp => ?_
  have hlen := Time.parseCompact_length q.date (by simpa using hp)
  refine noPanic_sliceTo_bind fun d8 => ?_
  refine noPanic_idx_bind fun c1 => noPanic_guard fun _ => ?_
  refine noPanic_idx_bind fun c2 => noPanic_guard fun _ => noPanic_guard fun _ => noPanic_guard fun _ => ?_
  split
  · rfl
  · exact noPanic_idx_bind fun a => noPanic_idx_bind fun r => rfl

end Vgw.Model.Robust
