/-
  The lock / file invariant of Model.IAM (`LInv`): who holds the store mutex, and what the files
  look like at every program point of a writer.  With `BInv` (lock holders exist) it is `Wf`, which
  holds for every variant along every schedule.
-/
import Vgw.Lemmas.IAMStep
namespace Vgw.Model.IAM
open Vgw
open Vgw.Model.Gw (Account Role)

/-- what holds at a program point, about the files and the call's local variables -/
def PcL (cfg : Cfg) (σ : State) (c : Call) : Prop :=
  match c.pc with
  | .mLocked => σ.main = some σ.committed ∧ σ.temp = none
  | .mRead b => b = σ.committed ∧ σ.main = some σ.committed ∧ σ.temp = none
  | .mRemoved b => b = σ.committed ∧ σ.main = none ∧ σ.temp = none
  | .mBackedUp b => b = σ.committed ∧ σ.main = none ∧ σ.temp = none ∧ σ.backup = some b
  | .mTemp b' => mutate σ.committed c.op = .ok b' ∧ σ.main = none ∧ σ.temp = some b'
  | .mRenamed => σ.main = some σ.committed ∧ σ.temp = none
  | .mFailed _ => σ.main = some σ.committed ∧ σ.temp = none
  | .gRLocked _ => c.op.key ≠ cfg.root.access
  | .gGot r _ => c.op.key ≠ cfg.root.access ∧ r = σ.committed.find c.op.key
  | .lGot s => s = σ.committed
  | _ => True

theorem PcL.look_gGot {cfg : Cfg} {σ : State} {op : Op} {r : Option Account} {g : Nat}
    (h : PcL cfg σ ⟨op, .gGot r g⟩) : look cfg σ.committed op.key = r :=
  (look_nonroot cfg _ h.1).trans h.2.symm

/-- call i holds a lock exactly inside the matching critical section, and its local variables are
what the files say (`PcL`) -/
structure CallL (cfg : Cfg) (σ : State) (i : Nat) (c : Call) : Prop where
  w : inW c.pc = true ↔ σ.writer = some i
  r : inR c.pc = true ↔ i ∈ σ.readers
  pc : PcL cfg σ c

structure LInv (cfg : Cfg) (σ : State) : Prop where
  /-- nobody writes: users.json is the complete committed image, no temp file lies around -/
  free : σ.writer = none → σ.main = some σ.committed ∧ σ.temp = none
  excl : σ.writer ≠ none → σ.readers = []
  calls : ∀ i c, σ.calls[i]? = some c → CallL cfg σ i c

theorem CallL.of_eq {cfg : Cfg} {σ σ' : State} {j : Nat} {c : Call}
    (hw : σ'.writer = σ.writer) (hr : j ∈ σ'.readers ↔ j ∈ σ.readers)
    (hm : σ'.main = σ.main) (ht : σ'.temp = σ.temp) (hb : σ'.backup = σ.backup) (hc : σ'.committed = σ.committed)
    (h : CallL cfg σ j c) : CallL cfg σ' j c := by
  refine ⟨by rw [hw]; exact h.w, by rw [hr]; exact h.r, ?_⟩
  have := h.pc
  unfold PcL at this ⊢
  rw [hm, ht, hb, hc]
  exact this

theorem PcL.of_unlocked {cfg : Cfg} {σ' : State} {c : Call} (hw : inW c.pc = false) (hr : inR c.pc = false) :
    PcL cfg σ' c := by
  obtain ⟨op, pc⟩ := c
  cases pc <;> first | trivial | cases hw | cases hr

theorem CallL.of_unlocked {cfg : Cfg} {σ' : State} {j : Nat} {c : Call}
    (hw : inW c.pc = false) (hr : inR c.pc = false) (hw' : σ'.writer ≠ some j) (hr' : j ∉ σ'.readers) :
    CallL cfg σ' j c :=
  ⟨by simp [hw, hw'], by simp [hr, hr'], PcL.of_unlocked hw hr⟩

theorem LInv.writer_none {cfg : Cfg} {σ : State} {i : Nat} (hI : LInv cfg σ) (h : i ∈ σ.readers) : σ.writer = none :=
  Classical.byContradiction fun hw => by rw [hI.excl hw] at h; cases h

theorem LInv.read_committed {cfg : Cfg} {σ : State} {i : Nat} {s : Store} (hI : LInv cfg σ) (hr : i ∈ σ.readers)
    (hs : σ.main = some s) : s = σ.committed := by
  rw [(hI.free (hI.writer_none hr)).1] at hs; exact (Option.some.inj hs).symm

theorem LInv.unlocked {cfg : Cfg} {σ : State} {i j : Nat} {cj : Call} (hI : LInv cfg σ)
    (hU : σ.writer = some i ∨ (σ.writer = none ∧ σ.readers = [])) (hij : j ≠ i) (hj : σ.calls[j]? = some cj) :
    inW cj.pc = false ∧ inR cj.pc = false := by
  have h := hI.calls j cj hj
  have hrd : σ.readers = [] := hU.elim (fun h => hI.excl (by rw [h]; nofun)) (·.2)
  refine ⟨Bool.eq_false_iff.mpr fun hw => ?_, Bool.eq_false_iff.mpr fun hr => ?_⟩
  · have := h.w.mp hw
    rcases hU with hU | hU
    · rw [hU] at this; exact hij (Option.some.inj this).symm
    · rw [hU.1] at this; cases this
  · have := h.r.mp hr
    rw [hrd] at this; cases this

theorem LInv.setCall {cfg : Cfg} {σ σ₁ : State} {i : Nat} {c' : Call} (hcalls : σ₁.calls = σ.calls)
    (hfree : σ₁.writer = none → σ₁.main = some σ₁.committed ∧ σ₁.temp = none)
    (hexcl : σ₁.writer ≠ none → σ₁.readers = [])
    (hself : CallL cfg σ₁ i c')
    (hothers : ∀ j cj, j ≠ i → σ.calls[j]? = some cj → CallL cfg σ₁ j cj) :
    LInv cfg (σ₁.setCall i c') :=
  ⟨hfree, hexcl, forall_setCall (P := fun j cj => CallL cfg (σ₁.setCall i c') j cj) hcalls
    (CallL.of_eq (σ := σ₁) rfl .rfl rfl rfl rfl rfl hself)
    (fun j cj hij hj => CallL.of_eq (σ := σ₁) rfl .rfl rfl rfl rfl rfl (hothers j cj hij hj))⟩

/-- a step of the call that holds, takes or releases the write lock -/
theorem LInv.step_writer {cfg : Cfg} {σ σ₁ : State} {i : Nat} {c' : Call} (hI : LInv cfg σ)
    (hU : σ.writer = some i ∨ (σ.writer = none ∧ σ.readers = []))
    (hcalls : σ₁.calls = σ.calls) (hr1 : σ₁.readers = σ.readers)
    (hw1 : σ₁.writer = if inW c'.pc = true then some i else none) (hR : inR c'.pc = false) (hp : PcL cfg σ₁ c')
    (hfree : inW c'.pc = false → σ₁.main = some σ₁.committed ∧ σ₁.temp = none) :
    LInv cfg (σ₁.setCall i c') := by
  have hrd : σ₁.readers = [] := hr1.trans (hU.elim (fun h => hI.excl (by rw [h]; nofun)) (·.2))
  refine LInv.setCall hcalls ?_ (fun _ => hrd) ⟨?_, by simp [hR, hrd], hp⟩ ?_
  · intro hw
    refine hfree (Bool.eq_false_iff.mpr fun h => ?_)
    rw [hw1, if_pos h] at hw; cases hw
  · rw [hw1]; cases inW c'.pc <;> simp
  · intro j cj hij hj
    obtain ⟨h1, h2⟩ := hI.unlocked hU hij hj
    refine CallL.of_unlocked h1 h2 ?_ (by simp [hrd])
    rw [hw1]; split
    · exact fun e => hij (Option.some.inj e).symm
    · nofun

/-- a step of a call outside the write section: lock membership changes for that call only -/
theorem LInv.step_reader {cfg : Cfg} {σ σ₁ : State} {i : Nat} {c' : Call} (hI : LInv cfg σ)
    (hcalls : σ₁.calls = σ.calls)
    (hsame : σ₁.writer = σ.writer ∧ σ₁.main = σ.main ∧ σ₁.temp = σ.temp ∧ σ₁.backup = σ.backup ∧ σ₁.committed = σ.committed)
    (hnw : σ.writer ≠ some i) (hw' : inW c'.pc = false)
    (hro : ∀ j, j ≠ i → (j ∈ σ₁.readers ↔ j ∈ σ.readers)) (hrs : inR c'.pc = true ↔ i ∈ σ₁.readers)
    (hx : inR c'.pc = true → σ.writer = none) (hp : PcL cfg σ₁ c') :
    LInv cfg (σ₁.setCall i c') := by
  obtain ⟨e1, e2, e3, e4, e5⟩ := hsame
  refine LInv.setCall hcalls ?_ ?_ ⟨by simp [hw', e1, hnw], hrs, hp⟩ ?_
  · rw [e1, e2, e3, e5]; exact hI.free
  · intro hw
    rw [e1] at hw
    refine List.eq_nil_iff_forall_not_mem.mpr fun j hj => ?_
    by_cases hji : j = i
    · exact hw (hx (hrs.mpr (hji ▸ hj)))
    · have := (hro j hji).mp hj; rw [hI.excl hw] at this; cases this
  · exact fun j cj hij hj => (hI.calls j cj hj).of_eq e1 (hro j hij) e2 e3 e4 e5

theorem LInv.step {v : Variant} {cfg : Cfg} {σ σ₁ : State} {i : Nat} {op : Op} {pc pc' : PC}
    (hI : LInv cfg σ) (hi : σ.calls[i]? = some ⟨op, pc⟩) (hs : Step v cfg σ i op pc σ₁ pc') :
    LInv cfg (σ₁.setCall i ⟨op, pc'⟩) := by
  have hc := hI.calls i _ hi
  have hp := hc.pc
  have hnw (h : inW pc = false) : σ.writer ≠ some i := fun e => by rw [hc.w.mpr e] at h; cases h
  cases hs
  -- taking the write lock, the writer's steps over the files, releasing it
  case lock _ _ hw hrd => exact hI.step_writer (.inr ⟨hw, hrd⟩) rfl rfl rfl rfl (hI.free hw) nofun
  case read b hb =>
    exact hI.step_writer (.inl (hc.w.mp rfl)) rfl rfl (hc.w.mp rfl) rfl ⟨Option.some.inj (hb.symm.trans hp.1), hp⟩ nofun
  case remove => exact hI.step_writer (.inl (hc.w.mp rfl)) rfl rfl (hc.w.mp rfl) rfl ⟨hp.1, rfl, hp.2.2⟩ nofun
  case backup => exact hI.step_writer (.inl (hc.w.mp rfl)) rfl rfl (hc.w.mp rfl) rfl ⟨hp.1, hp.2.1, hp.2.2, rfl⟩ nofun
  case fail =>
    exact hI.step_writer (.inl (hc.w.mp rfl)) rfl rfl (hc.w.mp rfl) rfl ⟨congrArg some hp.1, hp.2.2.1⟩ nofun
  case temp b b' hb' => exact hI.step_writer (.inl (hc.w.mp rfl)) rfl rfl (hc.w.mp rfl) rfl ⟨hp.1 ▸ hb', hp.2.1, rfl⟩ nofun
  case commit => exact hI.step_writer (.inl (hc.w.mp rfl)) rfl rfl (hc.w.mp rfl) rfl ⟨rfl, rfl⟩ nofun
  case unlock | unlockFailed => exact hI.step_writer (.inl (hc.w.mp rfl)) rfl rfl rfl rfl trivial (fun _ => hp)
  -- steps outside the write section: nothing they see changes, or the read lock is taken or released
  case hit | miss | refuse | cache | rootFetched | store | drop =>
    exact hI.step_reader rfl ⟨rfl, rfl, rfl, rfl, rfl⟩ (hnw rfl) rfl (fun _ _ => .rfl) hc.r nofun trivial
  case listLock _ hw =>
    exact hI.step_reader rfl ⟨rfl, rfl, rfl, rfl, rfl⟩ (hnw rfl) rfl (fun j hj => by simp [hj])
      ⟨fun _ => List.mem_cons_self, fun _ => rfl⟩ (fun _ => hw) trivial
  case getLock g hk hw =>
    exact hI.step_reader rfl ⟨rfl, rfl, rfl, rfl, rfl⟩ (hnw rfl) rfl (fun j hj => by simp [hj])
      ⟨fun _ => List.mem_cons_self, fun _ => rfl⟩ (fun _ => hw) hk
  case getRead g s hs =>
    exact hI.step_reader rfl ⟨rfl, rfl, rfl, rfl, rfl⟩ (hnw rfl) rfl (fun _ _ => .rfl) hc.r
      (fun _ => hI.writer_none (hc.r.mp rfl)) ⟨hp, by rw [hI.read_committed (hc.r.mp rfl) hs]⟩
  case listRead s hs =>
    exact hI.step_reader rfl ⟨rfl, rfl, rfl, rfl, rfl⟩ (hnw rfl) rfl (fun _ _ => .rfl) hc.r
      (fun _ => hI.writer_none (hc.r.mp rfl)) (hI.read_committed (hc.r.mp rfl) hs)
  case getNone | getSome | listDone =>
    exact hI.step_reader rfl ⟨rfl, rfl, rfl, rfl, rfl⟩ (hnw rfl) rfl
      (fun j hj => by simp [List.mem_filter, hj]) (by simp [List.mem_filter, inR]) nofun trivial

/-- lock holders are existing calls -/
structure BInv (σ : State) : Prop where
  wlt : ∀ w, σ.writer = some w → w < σ.calls.length
  rlt : ∀ r ∈ σ.readers, r < σ.calls.length

theorem BInv.step {v : Variant} {cfg : Cfg} {σ σ₁ : State} {i : Nat} {op : Op} {pc pc' : PC}
    (hB : BInv σ) (hi : σ.calls[i]? = some ⟨op, pc⟩) (hs : Step v cfg σ i op pc σ₁ pc') :
    BInv (σ₁.setCall i ⟨op, pc'⟩) := by
  have hlt := lt_of_getElem? hi
  constructor
  · intro w hw
    rw [setCall_length, hs.calls]
    rcases hs.writer hw with rfl | h
    · exact hlt
    · exact hB.wlt w h
  · intro r hr
    rw [setCall_length, hs.calls]
    rcases hs.readers hr with rfl | h
    · exact hlt
    · exact hB.rlt r h

/-- well-formed state: lock / file invariant + lock holders exist -/
structure Wf (cfg : Cfg) (σ : State) : Prop where
  l : LInv cfg σ
  b : BInv σ

theorem Wf.step {v : Variant} {cfg : Cfg} {σ σ₁ : State} {i : Nat} {op : Op} {pc pc' : PC}
    (h : Wf cfg σ) (hi : σ.calls[i]? = some ⟨op, pc⟩) (hs : Step v cfg σ i op pc σ₁ pc') :
    Wf cfg (σ₁.setCall i ⟨op, pc'⟩) :=
  ⟨h.l.step hi hs, h.b.step hi hs⟩

theorem Wf.stepAt {v : Variant} {cfg : Cfg} {σ : State} (h : Wf cfg σ) (i : Nat) : Wf cfg (stepAt v cfg σ i) :=
  stepAt_ind h fun hi hs => h.step hi hs

theorem Wf.act {v : Variant} {cfg : Cfg} {σ : State} (h : Wf cfg σ) (a : Act) : Wf cfg (act v cfg σ a) := by
  have same (σ' : State) (hc : σ'.calls = σ.calls) (hw : σ'.writer = σ.writer) (hr : σ'.readers = σ.readers)
      (hm : σ'.main = σ.main) (ht : σ'.temp = σ.temp) (hb : σ'.backup = σ.backup) (hcm : σ'.committed = σ.committed) :
      Wf cfg σ' :=
    ⟨⟨by rw [hw, hm, ht, hcm]; exact h.l.free, by rw [hw, hr]; exact h.l.excl,
      fun i c hi => (h.l.calls i c (hc ▸ hi)).of_eq hw (by rw [hr]) hm ht hb hcm⟩,
     ⟨by rw [hw, hc]; exact h.b.wlt, by rw [hr, hc]; exact h.b.rlt⟩⟩
  cases a with
  | step i => exact h.stepAt i
  | tick n => exact same _ rfl rfl rfl rfl rfl rfl rfl
  | gc => exact same _ rfl rfl rfl rfl rfl rfl rfl
  | invoke op =>
    refine ⟨⟨h.l.free, h.l.excl, forall_invoke ?_ fun i c hi => CallL.of_eq (σ := σ) rfl .rfl rfl rfl rfl rfl (h.l.calls i c hi)⟩, ⟨?_, ?_⟩⟩
    · exact CallL.of_unlocked rfl rfl (fun e => Nat.lt_irrefl _ (h.b.wlt _ e)) (fun e => Nat.lt_irrefl _ (h.b.rlt _ e))
    · intro w hw; exact Nat.lt_of_lt_of_le (h.b.wlt w hw) (by simp [Model.IAM.act])
    · intro r hr; exact Nat.lt_of_lt_of_le (h.b.rlt r hr) (by simp [Model.IAM.act])

theorem Wf.run {v : Variant} {cfg : Cfg} {σ : State} (h : Wf cfg σ) (acts : List Act) : Wf cfg (run v cfg σ acts) :=
  run_induction acts h fun _ a _ h => h.act a

theorem Wf.init (cfg : Cfg) (s : Store) (now : Nat) : Wf cfg (init s now) :=
  ⟨⟨fun _ => ⟨rfl, rfl⟩, fun h => absurd rfl h, fun _ _ hi => (nomatch hi)⟩,
   ⟨fun _ hw => (nomatch hw), fun _ hr => (nomatch hr)⟩⟩

end Vgw.Model.IAM
