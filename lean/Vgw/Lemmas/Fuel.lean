/- The fuel `Read` supplies to its loops is always enough: `Status.fuel` is never produced. -/
import Vgw.Lemmas.ChunkStep
namespace Vgw.Lemmas.Fuel
open Vgw Vgw.Model

theorem readLine_shorter (s l r : Bytes) (h : ChunkUnsigned.readLine s = some (l, r)) : r.length < s.length := by
  fun_induction ChunkUnsigned.readLine s generalizing l r with
  | case1 => cases h
  | case2 cur =>
    obtain ⟨_, rfl⟩ := Prod.mk.inj (Option.some.inj h)
    exact Nat.lt_succ_self _
  | case3 b cur _ l' r' heq ih =>
    obtain ⟨_, rfl⟩ := Prod.mk.inj (Option.some.inj h)
    exact Nat.lt_succ_of_lt (ih l' r' heq)
  | case4 => cases h

theorem extract_shorter (s : Bytes) (v : Int) (r : Bytes) (h : ChunkUnsigned.extractChunkSize s = some (v, r)) :
    r.length < s.length := by
  revert h
  fun_cases ChunkUnsigned.extractChunkSize s with
  | case4 line rest hl =>
    intro h
    obtain ⟨_, rfl⟩ := Prod.mk.inj (Option.some.inj h)
    exact readLine_shorter s line _ hl
  | _ => nofun

theorem readAndSkip_le (d s r : Bytes) (h : readAndSkip d s = .ok r) : r.length ≤ s.length := by
  fun_induction readAndSkip d s with
  | case1 => cases h; exact Nat.le_refl _
  | case2 => cases h
  | case3 ds b cur ih => exact Nat.le_succ_of_le (ih h)
  | case4 => cases h

theorem skipBytes_le (d s r : Bytes) (h : ChunkUnsigned.skipBytes d s = .ok r) : r.length ≤ s.length := by
  revert h
  fun_cases ChunkUnsigned.skipBytes d s with
  | case1 r' hr => intro h; cases h; exact readAndSkip_le d s _ hr
  | _ => nofun

theorem readTrailer_no_fuel (cfg : ChunkUnsigned.Cfg) (st : ChunkUnsigned.State) :
    (ChunkUnsigned.readTrailer cfg st).2 ≠ .fuel := by
  fun_cases ChunkUnsigned.readTrailer cfg st <;> nofun

/-- every iteration consumes a size line -/
theorem loop_no_fuel (cfg : ChunkUnsigned.Cfg) (cap : Nat) :
    ∀ (fuel : Nat) (st : ChunkUnsigned.State) (acc : Bytes), st.input.length < fuel →
      (ChunkUnsigned.loop cfg cap fuel st acc).2.status ≠ .fuel := by
  intro fuel st acc h
  fun_induction ChunkUnsigned.loop cfg cap fuel st acc with
  | case1 => exact absurd h (Nat.not_lt_zero _)   -- no fuel
  | case4 _ _ _ _ _ _ st₁ _ _ _ _ ht =>   -- the final chunk: its trailer
    have := readTrailer_no_fuel cfg st₁
    rw [ht] at this
    exact this
  | case8 _ st _ _ rest hx _ _ _ _ _ rest' hsk _ _ _ _ ih =>
    -- the chunk fits: the next iteration starts behind its CRLF
    have h1 : rest.length < st.input.length := extract_shorter _ _ _ hx
    have h2 : rest'.length ≤ rest.length :=
      Nat.le_trans (skipBytes_le _ _ _ hsk) (List.drop_sublist _ _).length_le
    exact ih (Nat.lt_of_le_of_lt h2 (Nat.lt_of_lt_of_le h1 (Nat.le_of_lt_succ h)))
  | _ => nofun

theorem finalChunk_no_fuel (cfg : ChunkSigned.Cfg) (st : ChunkSigned.State) :
    (ChunkSigned.finalChunk cfg st).2.status ≠ .fuel := by
  fun_cases ChunkSigned.finalChunk cfg st <;> nofun

theorem joinRec_no_fuel (c : Int) (d : Bytes) (r : ChunkSigned.State × ChunkSigned.Out) (h : r.2.status ≠ .fuel) :
    (ChunkSigned.joinRec c d r).2.status ≠ .fuel := by
  fun_cases ChunkSigned.joinRec c d r with
  | case2 hf => exact absurd hf h
  | case4 => exact h
  | _ => nofun

theorem parBody_no_fuel (cfg : ChunkSigned.Cfg) (K : ChunkSigned.State → Bytes → ChunkSigned.State × ChunkSigned.Out)
    (st : ChunkSigned.State) (p : Bytes)
    (hK : ∀ st' p', p'.length < p.length → (K st' p').2.status ≠ .fuel) :
    (ChunkSigned.parBody cfg K st p).2.status ≠ .fuel := by
  fun_cases ChunkSigned.parBody cfg K st p with
  | case4 => exact finalChunk_no_fuel cfg _   -- final chunk
  | case7 _ size _ _ _ _ _ hz _ data hgt hneg =>
    -- the call is on what follows a non-empty chunk
    have h0 : size ≠ 0 := fun e => hz (by rw [e]; rfl)
    have hlt : (data.drop size.toNat).length < data.length := by
      rw [List.length_drop]; omega
    exact joinRec_no_fuel _ _ _ (hK _ _ (Nat.lt_of_lt_of_le hlt (List.drop_sublist _ _).length_le))
  | _ => nofun

/-- the recursion is on a strictly shorter buffer -/
theorem parseAndRemove_no_fuel (cfg : ChunkSigned.Cfg) :
    ∀ (fuel : Nat) (st : ChunkSigned.State) (p : Bytes), p.length < fuel →
      (ChunkSigned.parseAndRemove cfg fuel st p).2.status ≠ .fuel := by
  intro fuel
  induction fuel with
  | zero => intro st p h; exact absurd h (Nat.not_lt_zero _)
  | succ fuel ih =>
    intro st p h
    rw [ChunkSigned.parseAndRemove]
    fun_cases ChunkSigned.parStep cfg (ChunkSigned.parseAndRemove cfg fuel) st p with
    | case1 => nofun
    | case2 =>
      exact parBody_no_fuel cfg _ _ p fun st' p' hp => ih st' p' (Nat.lt_of_lt_of_le hp (Nat.le_of_lt_succ h))

end Vgw.Lemmas.Fuel
