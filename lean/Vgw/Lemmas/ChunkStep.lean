/-
  The equations of the signed reader (Model.ChunkSigned), case by case: what `parseChunkHeaderBytes`,
  `parBody`, `parStep`, `read` and `runFrom` answer, so that the proofs about runs need not unfold them.
-/
import Vgw.Lemmas.ChunkParse
namespace Vgw.Lemmas.ChunkMerge
open Vgw Vgw.Model Vgw.Model.ChunkSigned Vgw.Lemmas.ChunkParse

abbrev Res := State × Out

def setC (c : Int) (st : State) : State := { st with chunkDataLeft := c }
def setE (e : Bool) (st : State) : State := { st with isEOF := e }

/-- same bytes and error value; same state when the run goes on -/
def REq (r r' : Res) : Prop := r.2 = r'.2 ∧ (r.2.status = .nil → r.1 = r'.1)

theorem REq.refl (r : Res) : REq r r := ⟨rfl, fun _ => rfl⟩
theorem REq.symm {r r' : Res} (h : REq r r') : REq r' r := ⟨h.1.symm, fun hs => (h.2 (h.1 ▸ hs)).symm⟩
theorem REq.trans {a b c : Res} (h1 : REq a b) (h2 : REq b c) : REq a c :=
  ⟨h1.1.trans h2.1, fun hs => (h1.2 hs).trans (h2.2 (h1.1 ▸ hs))⟩

theorem REq.of_not_nil {r r' : Res} (h : r.2 = r'.2) (hn : r.2.status ≠ .nil) : REq r r' :=
  ⟨h, fun hs => absurd hs hn⟩

theorem hashWrite_setE (cfg : Cfg) (e : Bool) (st : State) (d : Bytes) :
    hashWrite cfg (setE e st) d = setE e (hashWrite cfg st d) := rfl

theorem hashWrite_hashWrite (cfg : Cfg) (st : State) (a b : Bytes) :
    hashWrite cfg (hashWrite cfg st a) b = hashWrite cfg st (a ++ b) := by
  unfold hashWrite
  by_cases h : cfg.trailer ≠ [] <;> simp [h]

theorem hashWrite_fields (cfg : Cfg) (st : State) (d : Bytes) :
    (hashWrite cfg st d).isEOF = st.isEOF ∧ (hashWrite cfg st d).stash = st.stash ∧
    (hashWrite cfg st d).chunkDataLeft = st.chunkDataLeft ∧ (hashWrite cfg st d).parsedSig = st.parsedSig :=
  ⟨rfl, rfl, rfl, rfl⟩

theorem hashWrite_nil (cfg : Cfg) (st : State) : hashWrite cfg st [] = st := by
  simp [hashWrite]

theorem verifyChecksum_setC (cfg : Cfg) (c : Int) (st : State) :
    verifyChecksum cfg (setC c st) = verifyChecksum cfg st := rfl

theorem verifyTrailer_setC (cfg : Cfg) (c : Int) (st : State) :
    verifyTrailerSignature cfg (setC c st) = verifyTrailerSignature cfg st := rfl

/-- a change of the state that the signature and checksum checks neither see nor undo: what `setC` and `setE`
need in order to commute with `pendingCheck` and `finalChunk` (`reset`: finalChunk's `chunkAcc := []`) -/
structure Inert (cfg : Cfg) (F : State → State) : Prop where
  parsedSig : ∀ s, (F s).parsedSig = s.parsedSig
  reset : ∀ s : State, F { s with chunkAcc := [] } = { F s with chunkAcc := [] }
  check : ∀ s, checkSignature cfg (F s) = (checkSignature cfg s).map F
  checksum : ∀ s, verifyChecksum cfg (F s) = verifyChecksum cfg s
  trailer : ∀ s, verifyTrailerSignature cfg (F s) = verifyTrailerSignature cfg s

theorem inert_setC (cfg : Cfg) (c : Int) : Inert cfg (setC c) where
  parsedSig _ := rfl
  reset _ := rfl
  check st := by
    unfold checkSignature setC chunkStringToSign
    simp only
    split <;> rfl
  checksum _ := rfl
  trailer _ := rfl

theorem inert_setE (cfg : Cfg) (e : Bool) : Inert cfg (setE e) where
  parsedSig _ := rfl
  reset _ := rfl
  check st := by
    unfold checkSignature setE chunkStringToSign
    simp only
    split <;> rfl
  checksum _ := rfl
  trailer _ := rfl

/-- `parseAndRemoveChunkInfo` begins with the check of the previous chunk's signature, if one is pending -/
@[reducible] def pendingCheck (cfg : Cfg) (st : State) : Except Err State :=
  if st.parsedSig ≠ [] then checkSignature cfg st else .ok st

theorem pendingCheck_map {cfg : Cfg} {F : State → State} (hF : Inert cfg F) (st : State) :
    pendingCheck cfg (F st) = (pendingCheck cfg st).map F := by
  unfold pendingCheck
  rw [hF.parsedSig, hF.check]
  by_cases hp : st.parsedSig ≠ []
  · rw [if_pos hp, if_pos hp]
  · rw [if_neg hp, if_neg hp]; rfl

theorem pendingCheck_fields {cfg : Cfg} {st stc : State} (h : pendingCheck cfg st = .ok stc) :
    stc.parsedSig = [] ∧ stc.stash = st.stash ∧ stc.isFirstHeader = st.isFirstHeader ∧ stc.isEOF = st.isEOF := by
  unfold pendingCheck checkSignature at h
  simp only at h
  split at h
  · split at h
    · contradiction
    · cases h; exact ⟨rfl, rfl, rfl, rfl⟩
  · rename_i hp
    cases h
    exact ⟨by simpa using hp, rfl, rfl, rfl⟩

theorem parStep_error {cfg : Cfg} {st : State} {e : Err} (K : State → Bytes → Res) (p : Bytes)
    (h : pendingCheck cfg st = .error e) : parStep cfg K st p = (st, ⟨[], .err e⟩) := by
  unfold parStep; simp only [h]

theorem parStep_ok {cfg : Cfg} {st stc : State} (K : State → Bytes → Res) (p : Bytes)
    (h : pendingCheck cfg st = .ok stc) : parStep cfg K st p = parBody cfg K stc p := by
  unfold parStep; simp only [h]

theorem finalChunk_cases (cfg : Cfg) (st : State) :
    (finalChunk cfg st).2 = ⟨[], .eof⟩ ∨ ∃ e, (finalChunk cfg st).2 = ⟨[], .err e⟩ := by
  fun_cases finalChunk cfg st with
  | case1 => exact .inr ⟨_, rfl⟩
  | case2 => exact .inr ⟨_, rfl⟩
  | case3 => exact .inr ⟨_, rfl⟩
  | case4 => exact .inl rfl
  | case5 => exact .inl rfl

theorem finalChunk_out (cfg : Cfg) (st : State) : (finalChunk cfg st).2.out = [] := by
  rcases finalChunk_cases cfg st with h | ⟨e, h⟩ <;> rw [h]

theorem finalChunk_not_nil (cfg : Cfg) (st : State) : (finalChunk cfg st).2.status ≠ .nil := by
  rcases finalChunk_cases cfg st with h | ⟨e, h⟩ <;> rw [h] <;> simp

theorem finalChunk_not_panic (cfg : Cfg) (st : State) : (finalChunk cfg st).2.status ≠ .panic := by
  rcases finalChunk_cases cfg st with h | ⟨e, h⟩ <;> rw [h] <;> simp

theorem finalChunk_out_map {cfg : Cfg} {F : State → State} (hF : Inert cfg F) (st : State) :
    (finalChunk cfg (F st)).2 = (finalChunk cfg st).2 := by
  unfold finalChunk
  simp only [← hF.reset, hF.check]
  cases checkSignature cfg { st with chunkAcc := [] } with
  | error e => rfl
  | ok st' =>
    simp only [Except.map, hF.checksum, hF.trailer]
    split
    · cases verifyChecksum cfg st' with
      | error e => rfl
      | ok _ => cases verifyTrailerSignature cfg st' <;> rfl
    · rfl

/-- `parseChunkHeaderBytes` by the answer of `parseHeader` on `st.stash ++ p`; `bufOffset` is the number
of bytes of `p` that the cursor consumed -/
def hdrOf (cfg : Cfg) (st : State) (p : Bytes) : Except PErr (Parsed × Bytes) → State × HdrRes
  | .error (.rd .eof) =>
    if st.isEOF then ({ st with stash := [] }, .fail .invalidFormat) else ({ st with stash := st.stash ++ p }, .skip)
  | .error (.rd .mismatch) => ({ st with stash := [] }, .fail .malformed)
  | .error (.fail e) => ({ st with stash := [] }, .fail e)
  | .ok (r, rest) =>
    if r.chunkSize = 0 then
      (if cfg.trailer ≠ [] then { st with stash := [], trailerSig := r.trailerSig, parsedChecksum := r.checksum }
        else { st with stash := [] }, .chunk 0 r.sig 0)
    else ({ st with stash := [], isFirstHeader := false }, .chunk r.chunkSize r.sig ((p.length : Int) - rest.length))

theorem hdr_eq (cfg : Cfg) (st : State) (p : Bytes) :
    parseChunkHeaderBytes cfg st p =
      if maxHeaderSize < st.stash.length then (st, .fail .invalidFormat)
      else hdrOf cfg st p (parseHeader cfg st.isFirstHeader (st.stash ++ p)) := by
  fun_cases parseChunkHeaderBytes cfg st p with
  | case1 _ h => exact (if_pos h).symm   -- stash beyond its limit
  | case2 _ h _ _ e hp =>   -- the cursor ran out or met another byte
    rw [if_neg h, show parseHeader cfg st.isFirstHeader (st.stash ++ p) = _ from hp]; cases e <;> rfl
  | case3 _ h _ _ e hp =>   -- the parser refuses
    rw [if_neg h, show parseHeader cfg st.isFirstHeader (st.stash ++ p) = _ from hp]; rfl
  | case4 _ h _ _ r rest hp hz _ =>   -- final chunk
    rw [if_neg h, show parseHeader cfg st.isFirstHeader (st.stash ++ p) = _ from hp, hdrOf, if_pos hz]
  | case5 _ h _ _ _ r rest hp hz _ =>   -- data chunk
    -- bytes.Index(header[skip:], "\r\n") + skip + 2 is what the cursor consumed of stash ++ p
    have := (parseHeader_ok (H := st.stash ++ p) hp).2.2 hz
    simp only [List.length_append, Int.natCast_add] at this
    rw [if_neg h, show parseHeader cfg st.isFirstHeader (st.stash ++ p) = _ from hp, hdrOf, if_neg hz]
    refine congrArg (_, HdrRes.chunk _ _ ·) ?_
    show indexCRLF ((st.stash ++ p).drop (if st.isFirstHeader then 0 else 2)) +
      ((if st.isFirstHeader then 0 else 2 : Nat) : Int) + 2 - (st.stash.length : Int) = _
    rw [this]
    omega

theorem hdr_needMore {cfg : Cfg} {st : State} {q : Bytes} (hlen : st.stash.length ≤ maxHeaderSize)
    (he : st.isEOF = false) (hp : parseHeader cfg st.isFirstHeader (st.stash ++ q) = .error (.rd .eof)) :
    parseChunkHeaderBytes cfg st q = ({ st with stash := st.stash ++ q }, .skip) := by
  rw [hdr_eq, if_neg (Nat.not_lt.2 hlen), hp]
  simp [hdrOf, he]

theorem hdr_truncated {cfg : Cfg} {st : State} {q : Bytes} (hlen : st.stash.length ≤ maxHeaderSize)
    (he : st.isEOF = true) (hp : parseHeader cfg st.isFirstHeader (st.stash ++ q) = .error (.rd .eof)) :
    parseChunkHeaderBytes cfg st q = ({ st with stash := [] }, .fail .invalidFormat) := by
  rw [hdr_eq, if_neg (Nat.not_lt.2 hlen), hp]
  simp [hdrOf, he]

theorem hdr_setC {cfg : Cfg} {st st2 : State} {p : Bytes} {res : HdrRes} (c : Int)
    (h : parseChunkHeaderBytes cfg st p = (st2, res)) :
    parseChunkHeaderBytes cfg (setC c st) p = (setC c st2, res) := by
  rw [hdr_eq] at h ⊢
  show (if _ < st.stash.length then _ else hdrOf cfg (setC c st) p (parseHeader cfg st.isFirstHeader (st.stash ++ p))) = _
  split at h
  · rename_i hl; cases h; exact if_pos hl
  rename_i hl
  rw [if_neg hl]
  revert h
  fun_cases hdrOf cfg st p (parseHeader cfg st.isFirstHeader (st.stash ++ p)) with
  | case1 he => intro h; cases h; exact if_pos he   -- ran out of input, io.EOF pending
  | case2 he => intro h; cases h; exact if_neg he   -- ran out of input, more to come
  | case3 => intro h; cases h; rfl   -- mismatch
  | case4 => intro h; cases h; rfl   -- the parser refuses
  | case5 _ _ hz => intro h; cases h; rw [hdrOf, if_pos hz]; split <;> rfl   -- final chunk
  | case6 _ _ hz => intro h; cases h; rw [hdrOf, if_neg hz]; rfl   -- data chunk

theorem hdr_isEOF (cfg : Cfg) (st : State) (p : Bytes) : (parseChunkHeaderBytes cfg st p).1.isEOF = st.isEOF := by
  rw [hdr_eq]
  split
  · rfl
  · fun_cases hdrOf cfg st p (parseHeader cfg st.isFirstHeader (st.stash ++ p)) with
    | case5 => split <;> rfl
    | _ => rfl

/-- `copy(p, p[bufOffset:n])` and what follows, for a chunk of `size ≠ 0`; `sL` = the state with the
new `parsedSig` -/
def cont (cfg : Cfg) (K : State → Bytes → Res) (sL : State) (size off : Int) (p : Bytes) : Res :=
  if off < 0 ∨ (p.length : Int) < off then (sL, ⟨[], .panic⟩)
  else if ((p.drop off.toNat).length : Int) > size then
    if size < 0 then (sL, ⟨[], .panic⟩)
    else joinRec size ((p.drop off.toNat).take size.toNat)
      (K (hashWrite cfg { sL with chunkDataLeft := 0 } ((p.drop off.toNat).take size.toNat))
        ((p.drop off.toNat).drop size.toNat))
  else
    (hashWrite cfg { sL with chunkDataLeft := size - (p.drop off.toNat).length } (p.drop off.toNat),
      ⟨p.drop off.toNat, .nil⟩)

variable {cfg : Cfg} {st st2 : State} {p : Bytes}

theorem parBody_skip (K : State → Bytes → Res) (h : parseChunkHeaderBytes cfg st p = (st2, .skip)) :
    parBody cfg K st p = ({ st2 with chunkDataLeft := 0 }, ⟨[], .nil⟩) := by
  unfold parBody; rw [h]

theorem parBody_fail (K : State → Bytes → Res) {e : Err} (h : parseChunkHeaderBytes cfg st p = (st2, .fail e)) :
    parBody cfg K st p = (st2, ⟨[], .err e⟩) := by
  unfold parBody; rw [h]

/-- a chunk header with an empty signature value is refused (repo fix 7242bc4) -/
theorem parBody_nosig (K : State → Bytes → Res) {size off : Int}
    (h : parseChunkHeaderBytes cfg st p = (st2, .chunk size [] off)) :
    parBody cfg K st p = (st2, ⟨[], .err .sigMismatch⟩) := by
  unfold parBody; rw [h]; rfl

theorem parBody_final (K : State → Bytes → Res) {sig : Bytes} {off : Int}
    (h : parseChunkHeaderBytes cfg st p = (st2, .chunk 0 sig off)) (hsig : sig ≠ []) :
    parBody cfg K st p = finalChunk cfg { st2 with parsedSig := sig } := by
  unfold parBody; rw [h]; simp only [if_neg hsig]; rfl

theorem parBody_chunk (K : State → Bytes → Res) {sig : Bytes} {size off : Int}
    (h : parseChunkHeaderBytes cfg st p = (st2, .chunk size sig off)) (hsig : sig ≠ []) (hz : size ≠ 0) :
    parBody cfg K st p = cont cfg K { st2 with parsedSig := sig } size off p := by
  unfold parBody cont; rw [h]
  simp only [if_neg hsig, beq_iff_eq, if_neg hz]

theorem parBody_stash_long (K : State → Bytes → Res) (h : maxHeaderSize < st.stash.length) :
    parBody cfg K st p = (st, ⟨[], .err .invalidFormat⟩) :=
  parBody_fail K (by rw [hdr_eq, if_pos h])

theorem joinRec_eq_prepend (c : Int) (d : Bytes) (r : Res) (h : c + (r.2.out.length : Int) ≤ intMax) :
    joinRec c d r = prepend d r := by
  have h' : ¬ (c + (r.2.out.length : Int) > intMax) := Int.not_lt.2 h
  unfold joinRec prepend
  simp only [h', if_false]

theorem joinRec_out_le (c : Int) (d : Bytes) (r : Res) : (joinRec c d r).2.out.length ≤ d.length + r.2.out.length := by
  fun_cases joinRec c d r with
  | case1 => exact Nat.zero_le _
  | case2 => exact Nat.zero_le _
  | case3 => exact Nat.zero_le _
  | case4 => exact Nat.le_of_eq (List.length_append ..)

theorem joinRec_props (c : Int) (d : Bytes) (r : Res) (hp : r.2.status ≠ .panic) :
    (joinRec c d r).2.status ≠ .panic ∧ ((joinRec c d r).2.status = .nil → r.2.status = .nil ∧ (joinRec c d r).1 = r.1) := by
  fun_cases joinRec c d r with
  | case1 h => exact absurd h hp
  | case2 => exact ⟨nofun, nofun⟩
  | case3 s hs => exact ⟨nofun, nofun⟩
  | case4 s hs => exact ⟨hs, fun h => ⟨h, rfl⟩⟩

theorem prepend_congr {r r' : Res} (h : REq r r') (d : Bytes) : REq (prepend d r) (prepend d r') := by
  obtain ⟨h1, h2⟩ := h
  unfold prepend
  rw [← h1]
  split
  · exact ⟨rfl, nofun⟩
  · exact ⟨rfl, nofun⟩
  · exact ⟨rfl, h2⟩

theorem prepend_prepend (d d' : Bytes) (r : Res) : prepend d (prepend d' r) = prepend (d ++ d') r := by
  unfold prepend
  cases r.2.status <;> simp

theorem prepend_nil (r : Res) (h1 : r.2.status ≠ .panic) (h2 : r.2.status ≠ .fuel) : prepend [] r = r := by
  unfold prepend
  split
  · contradiction
  · contradiction
  · rfl

theorem prepend_status (d : Bytes) (r : Res) : (prepend d r).2.status = r.2.status := by
  unfold prepend
  split <;> simp_all

theorem prepend_fst (d : Bytes) (r : Res) : (prepend d r).1 = r.1 := by
  unfold prepend
  split <;> rfl

theorem read_data (cfg : Cfg) (st : State) (g : Bytes) (e : Bool) (cap : Nat) (h : (g.length : Int) ≤ st.chunkDataLeft) :
    read cfg st g e cap =
      (hashWrite cfg { setE e st with chunkDataLeft := st.chunkDataLeft - g.length } g,
        ⟨g, if e then .err .unexpectedEOF else .nil⟩) := by
  unfold ChunkSigned.read
  simp only [if_neg (Int.not_lt.2 h)]
  rfl

theorem read_hdr (cfg : Cfg) (st : State) (g : Bytes) (e : Bool) (cap : Nat) (h0 : 0 ≤ st.chunkDataLeft)
    (h : st.chunkDataLeft < (g.length : Int)) :
    read cfg st g e cap =
      prepend (g.take st.chunkDataLeft.toNat)
        (parseAndRemove cfg (g.length + 1) (hashWrite cfg (setE e st) (g.take st.chunkDataLeft.toNat))
          (g.drop st.chunkDataLeft.toNat)) := by
  unfold ChunkSigned.read
  simp only [if_pos h, if_neg (Int.not_lt.2 h0)]
  split
  · rfl
  · have : st.chunkDataLeft.toNat = 0 := by omega
    simp only [this, List.take_zero, hashWrite_nil]
    rfl

theorem read_at_header (cfg : Cfg) {st : State} {g : Bytes} (e : Bool) (cap : Nat) (hc : st.chunkDataLeft = 0)
    (hp : st.parsedSig = []) (hg : g ≠ []) :
    read cfg st g e cap = prepend [] (parBody cfg (parseAndRemove cfg g.length) (setE e st) g) := by
  have := List.length_pos_iff.2 hg
  rw [read_hdr cfg st g e cap (by omega) (by omega), hc, parseAndRemove]
  exact congrArg (prepend []) (((hashWrite_nil cfg (setE e st)).symm ▸ parStep_ok _ g (if_neg fun h => h hp)))

/-- `p[chunkSize:n]` with a negative `chunkSize` -/
theorem read_neg (cfg : Cfg) (st : State) (g : Bytes) (e : Bool) (cap : Nat) (h0 : st.chunkDataLeft < 0) :
    (read cfg st g e cap).2 = ⟨[], .panic⟩ := by
  have : st.chunkDataLeft < (g.length : Int) := by omega
  unfold ChunkSigned.read
  simp only [if_pos this, if_pos h0]

/-- what `runFrom` does with the result of a `Read` -/
def tail (cfg : Cfg) (r : Res) (ds : List (Bytes × Bool)) (acc : Bytes) : Bytes × Status :=
  match r.2.status with
  | .nil => runFrom cfg r.1 ds (acc ++ r.2.out)
  | .panic => ([], .panic)
  | .fuel => ([], .fuel)
  | s => (acc ++ r.2.out, s)

theorem runFrom_cons (cfg : Cfg) (st : State) (f : Bytes) (e : Bool) (ds : List (Bytes × Bool)) (acc : Bytes) :
    runFrom cfg st ((f, e) :: ds) acc = tail cfg (read cfg st f e f.length) ds acc := by
  rw [runFrom]
  rfl

/-- the bare `(0, io.EOF)` after the last delivery, inside or at the end of a data chunk -/
theorem runFrom_nil (cfg : Cfg) (st : State) (acc : Bytes) (h : 0 ≤ st.chunkDataLeft) :
    runFrom cfg st [] acc = (acc, .err .unexpectedEOF) := by
  rw [runFrom, read_data cfg st [] true 0 (by simpa using h)]
  simp

theorem runFrom_nil_ne_eof (cfg : Cfg) (st : State) (acc : Bytes) : (runFrom cfg st [] acc).2 ≠ .eof := by
  by_cases h : 0 ≤ st.chunkDataLeft
  · rw [runFrom_nil cfg st acc h]; nofun
  · have := read_neg cfg st [] true 0 (by omega)
    rw [runFrom]
    generalize ChunkSigned.read cfg st [] true 0 = r at this
    obtain ⟨_, o⟩ := r
    cases this
    nofun

theorem tail_nil {cfg : Cfg} {r : Res} (h : r.2.status = .nil) (ds : List (Bytes × Bool)) (acc : Bytes) :
    tail cfg r ds acc = runFrom cfg r.1 ds (acc ++ r.2.out) := by
  unfold tail; rw [h]

theorem tail_congr (cfg : Cfg) {r r' : Res} (h : REq r r') (ds : List (Bytes × Bool)) (acc : Bytes) :
    tail cfg r ds acc = tail cfg r' ds acc := by
  obtain ⟨h1, h2⟩ := h
  unfold tail
  rw [← h1]
  split
  · rename_i hs; rw [h2 hs]
  · rfl
  · rfl
  · rfl

theorem tail_not_nil (cfg : Cfg) {r r' : Res} (ds ds' : List (Bytes × Bool)) (acc : Bytes) (h : r.2 = r'.2)
    (hn : r.2.status ≠ .nil) : tail cfg r ds acc = tail cfg r' ds' acc := by
  unfold tail
  rw [← h]
  split
  · contradiction
  · rfl
  · rfl
  · rfl

theorem tail_prepend (cfg : Cfg) (d : Bytes) (r : Res) (ds : List (Bytes × Bool)) (acc : Bytes) :
    tail cfg (prepend d r) ds acc = tail cfg r ds (acc ++ d) := by
  unfold tail prepend
  cases hs : r.2.status <;> simp

end Vgw.Lemmas.ChunkMerge
