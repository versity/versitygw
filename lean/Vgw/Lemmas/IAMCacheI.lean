/-
  Cache invariant of the current code (`Variant.invalidate`): every cache entry, and every
  value a lookup has fetched and may still store, is either what the store says now, or is
  doomed — a change of that key is still to be followed by its invalidation, or the generation
  has moved on.  Holds along every schedule, without side conditions.
-/
import Vgw.Lemmas.IAMLock
import Vgw.Lemmas.IAMPending
namespace Vgw.Model.IAM
open Vgw
open Vgw.Model.Gw (Account Role)

/-- the cache generation a lookup saw before fetching -/
def gOf : PC → Nat
  | .gMiss g | .gRLocked g | .gGot _ g | .gFetched _ g => g
  | _ => 0

structure CInvI (cfg : Cfg) (σ : State) : Prop where
  rootFree : σ.committed.find cfg.root.access = none
  ent : ∀ e ∈ σ.items, look cfg σ.committed e.key = some e.val ∨ Pending σ.calls e.key
  fet : ∀ (i : Nat) (c : Call) (a : Account) (g : Nat), σ.calls[i]? = some c → c.pc = .gFetched a g →
    look cfg σ.committed c.op.key = some a ∨ g < σ.gen ∨ Pending σ.calls c.op.key
  gen : ∀ (i : Nat) (c : Call), σ.calls[i]? = some c → gOf c.pc ≤ σ.gen

theorem CInvI.of_calls {cfg : Cfg} {σ : State} (rootFree : σ.committed.find cfg.root.access = none)
    (ent : ∀ e ∈ σ.items, look cfg σ.committed e.key = some e.val ∨ Pending σ.calls e.key)
    (fet : ∀ (i : Nat) (c : Call), σ.calls[i]? = some c → ∀ a g, c.pc = .gFetched a g →
      look cfg σ.committed c.op.key = some a ∨ g < σ.gen ∨ Pending σ.calls c.op.key)
    (gen : ∀ (i : Nat) (c : Call), σ.calls[i]? = some c → gOf c.pc ≤ σ.gen) : CInvI cfg σ :=
  ⟨rootFree, ent, fun i c a g hi => fet i c hi a g, gen⟩

theorem CInvI.frame {cfg : Cfg} {σ σ₁ : State} {i : Nat} {c : Call} {pc' : PC} (h : CInvI cfg σ)
    (hi : σ.calls[i]? = some c)
    (hit : σ₁.items = σ.items) (hg : σ₁.gen = σ.gen) (hc : σ₁.committed = σ.committed) (hcalls : σ₁.calls = σ.calls)
    (hp : pend pc' = pend c.pc)
    (hf : ∀ a g, pc' = .gFetched a g → look cfg σ.committed c.op.key = some a ∨ g < σ.gen ∨ Pending σ.calls c.op.key)
    (hgo : gOf pc' ≤ σ.gen) : CInvI cfg (σ₁.setCall i ⟨c.op, pc'⟩) := by
  have hP : ∀ k, Pending (σ₁.calls.set i ⟨c.op, pc'⟩) k ↔ Pending σ.calls k :=
    fun k => by rw [hcalls]; exact pending_set_same hi rfl hp
  refine .of_calls ?_ ?_ (forall_setCall hcalls ?_ fun j cj _ hj => ?_) (forall_setCall hcalls ?_ fun j cj _ hj => ?_)
    <;> simp only [State.setCall, hit, hg, hc, hP]
  · exact h.rootFree
  · exact h.ent
  · exact hf
  · exact fun a g => h.fet j cj a g hj
  · exact hgo
  · exact h.gen j cj hj

theorem CInvI.frame_notFetched {cfg : Cfg} {σ σ₁ : State} {i : Nat} {c : Call} {pc' : PC} (h : CInvI cfg σ)
    (hi : σ.calls[i]? = some c)
    (hit : σ₁.items = σ.items) (hg : σ₁.gen = σ.gen) (hc : σ₁.committed = σ.committed) (hcalls : σ₁.calls = σ.calls)
    (hp : pend pc' = pend c.pc) (hf : isFetched pc' = false) (hgo : gOf pc' ≤ σ.gen) :
    CInvI cfg (σ₁.setCall i ⟨c.op, pc'⟩) :=
  h.frame hi hit hg hc hcalls hp (fun a g e => by rw [e] at hf; cases hf) hgo

/-- the rename: the store now says b' -/
theorem CInvI.commit {cfg : Cfg} {σ σ₁ : State} {i : Nat} {c : Call} {b' : Store} (h : CInvI cfg σ)
    (hi : σ.calls[i]? = some c) (hT : PcT cfg c) (hpc : c.pc = .mTemp b') (hm : mutate σ.committed c.op = .ok b')
    (hit : σ₁.items = σ.items) (hg : σ₁.gen = σ.gen) (hc : σ₁.committed = b') (hcalls : σ₁.calls = σ.calls) :
    CInvI cfg (σ₁.setCall i ⟨c.op, .mRenamed⟩) := by
  have hnp : pend c.pc = false := by rw [hpc]; rfl
  have hnew : Pending (σ.calls.set i ⟨c.op, .mRenamed⟩) c.op.key := pending_set_new (c' := ⟨c.op, .mRenamed⟩) hi rfl
  have hmono : ∀ k, Pending σ.calls k → Pending (σ.calls.set i ⟨c.op, .mRenamed⟩) k := fun k => pending_set_mono hi hnp
  -- the image changes at the key of the call only, and that key is pending now
  have hlook : ∀ k, k ≠ c.op.key → look cfg b' k = look cfg σ.committed k := fun k => look_mutate cfg hm
  have hTc := hT.1 (Or.inl (by rw [hpc]; rfl))
  refine .of_calls ?_ ?_ (forall_setCall hcalls ?_ fun j cj _ hj => ?_) (forall_setCall hcalls ?_ fun j cj _ hj => ?_)
    <;> simp only [State.setCall, hcalls, hit, hg, hc]
  · exact mutate_absent hm h.rootFree hTc.2
  · intro e he
    by_cases hk : e.key = c.op.key
    · right; rw [hk]; exact hnew
    · exact (h.ent e he).imp (fun h1 => (hlook _ hk).trans h1) (hmono _)
  · exact fun _ _ e => nomatch e
  · intro a g hpcj
    by_cases hk : cj.op.key = c.op.key
    · right; right; rw [hk]; exact hnew
    · exact (h.fet j cj a g hj hpcj).imp (fun h1 => (hlook _ hk).trans h1) (Or.imp_right (hmono _))
  · exact Nat.zero_le _
  · exact h.gen j cj hj

/-- IAMCache's step after a change: drop the entry, bump the generation -/
theorem CInvI.invalidate {cfg : Cfg} {σ : State} {i : Nat} {c : Call} (h : CInvI cfg σ)
    (hi : σ.calls[i]? = some c) :
    CInvI cfg ({ σ with items := σ.items.del c.op.key, gen := σ.gen + 1 }.setCall i ⟨c.op, .done .ok⟩) := by
  have hkeep : ∀ k, k ≠ c.op.key → Pending σ.calls k → Pending (σ.calls.set i ⟨c.op, .done .ok⟩) k := by
    intro k hk hp; exact (pending_set_other (c' := ⟨c.op, .done .ok⟩) hi rfl hk).mpr hp
  refine .of_calls h.rootFree ?_ (forall_setCall (σ := σ) rfl (fun _ _ e => nomatch e) fun j cj _ hj a g hpcj => ?_)
    (forall_setCall (σ := σ) rfl (Nat.zero_le _) fun j cj _ hj => Nat.le_succ_of_le (h.gen j cj hj))
  · intro e he
    obtain ⟨he, hk⟩ := Items.mem_del.mp he
    exact (h.ent e he).imp_right (hkeep _ hk)
  · -- what was fetched before is of an older generation now
    have := h.gen j cj hj
    rw [hpcj] at this
    exact .inr (.inl (Nat.lt_succ_of_le this))

/-- the miss path's cache.set, guarded by the generation -/
theorem CInvI.set {cfg : Cfg} {σ : State} {i : Nat} {c : Call} {a : Account} {g x : Nat} (h : CInvI cfg σ)
    (hi : σ.calls[i]? = some c) (hpc : c.pc = .gFetched a g) (hgen : g = σ.gen) :
    CInvI cfg ({ σ with items := σ.items.set c.op.key a x }.setCall i ⟨c.op, .done (.acct a)⟩) := by
  have hP : ∀ k, Pending (σ.calls.set i ⟨c.op, .done (.acct a)⟩) k ↔ Pending σ.calls k :=
    fun k => pending_set_same hi rfl (by rw [hpc]; rfl)
  refine .of_calls h.rootFree ?_ (forall_setCall (σ := σ) rfl (fun _ _ e => nomatch e) fun j cj _ hj => ?_)
    (forall_setCall (σ := σ) rfl (Nat.zero_le _) fun j cj _ => h.gen j cj) <;> simp only [State.setCall, hP]
  · intro e he
    rcases Items.mem_set.mp he with rfl | ⟨he, _⟩
    · exact (h.fet i c a g hi hpc).imp_right fun h1 => h1.resolve_left (by omega)
    · exact h.ent e he
  · exact fun a g => h.fet j cj a g hj

theorem cacheStep_invalidate {v : Variant} (cfg : Cfg) (σ : State) (op : Op) (hvc : v.cache = true) (hvi : v.invalidate = true) :
    cacheStep v cfg σ op = { σ with items := σ.items.del op.key, gen := σ.gen + 1 } := by
  simp [cacheStep, hvc, hvi]

theorem CInvI.step {v : Variant} {cfg : Cfg} {σ σ₁ : State} {i : Nat} {op : Op} {pc pc' : PC}
    (hvc : v.cache = true) (hvi : v.invalidate = true) (hW : Wf cfg σ) (hT : PcT cfg ⟨op, pc⟩) (h : CInvI cfg σ)
    (hi : σ.calls[i]? = some ⟨op, pc⟩) (hs : Step v cfg σ i op pc σ₁ pc') : CInvI cfg (σ₁.setCall i ⟨op, pc'⟩) := by
  have hL := (hW.l.calls i _ hi).pc
  have hgc := h.gen i _ hi
  cases hs
  case commit => exact h.commit hi hT rfl hL.1 rfl rfl rfl rfl
  case cache hc => cases (cacheStep_invalidate cfg σ op hvc hvi).symm.trans hc; exact h.invalidate hi
  case store hg => exact h.set hi rfl (hg hvi)
  case miss => exact h.frame_notFetched hi rfl rfl rfl rfl rfl rfl (Nat.le_refl _)
  case rootFetched hr =>
    exact h.frame hi rfl rfl rfl rfl rfl (fun a g e => by cases e; exact .inl (look_root cfg _ hr)) hgc
  case getLock | getRead => exact h.frame_notFetched hi rfl rfl rfl rfl rfl rfl hgc
  case getSome =>
    exact h.frame hi rfl rfl rfl rfl rfl
      (fun a g e => by cases e; exact .inl hL.look_gGot) hgc
  all_goals exact h.frame_notFetched hi rfl rfl rfl rfl rfl rfl (Nat.zero_le _)

theorem CInvI.act {v : Variant} {cfg : Cfg} {σ : State} (hvc : v.cache = true) (hvi : v.invalidate = true)
    (hW : Wf cfg σ) (hT : TInv cfg σ) (h : CInvI cfg σ) (a : Act) : CInvI cfg (act v cfg σ a) := by
  cases a with
  | step i => exact stepAt_ind h fun hi hs => h.step hvc hvi hW (hT i _ hi) hi hs
  | tick n => exact ⟨h.rootFree, h.ent, h.fet, h.gen⟩
  | gc => exact ⟨h.rootFree, fun e he => h.ent e (Items.mem_gc he), h.fet, h.gen⟩
  | invoke op =>
    refine .of_calls h.rootFree ?_ (forall_invoke (fun _ _ e => nomatch e) fun j cj hj => ?_) (forall_invoke (Nat.zero_le _) h.gen)
      <;> simp only [Model.IAM.act, pending_append]
    · exact h.ent
    · exact fun a g => h.fet j cj a g hj

end Vgw.Model.IAM
