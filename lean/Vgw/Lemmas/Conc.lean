/-
  Lemmas about Model.Conc: the per-request invariant of writers (the unpublished inode is complete
  when the publication step runs), the programs of the requests at invocation, the reachability
  invariant of the filesystem state.
-/
import Vgw.Lemmas.ConcStep
namespace Vgw.Model.Conc

/-- the temp inode after the private steps still in the program. -/
def finalTmp (rq : Req) (tmp : Inode) : List Act → Inode
  | [] => tmp
  | .opentmp :: p => finalTmp rq ⟨rq.w.blob, []⟩ p
  | .setattr a v :: p => finalTmp rq { tmp with attrs := setAttr tmp.attrs a v } p
  | _ :: p => finalTmp rq tmp p

/-- no private step after a publishing step. -/
def okOrder : List Act → Bool
  | [] => true
  | a :: p => if a.isPub then p.all (fun b => !b.isPriv) else okOrder p

theorem finalTmp_neutral (rq : Req) (tmp : Inode) {a : Act} (p : List Act) (h : a.isPriv = false) :
    finalTmp rq tmp (a :: p) = finalTmp rq tmp p := by
  cases a <;> first | rfl | cases h

theorem finalTmp_append_noPriv (rq : Req) (tmp : Inode) {p : List Act} (q : List Act)
    (h : p.all (fun b => !b.isPriv) = true) : finalTmp rq tmp (p ++ q) = finalTmp rq tmp q := by
  induction p with
  | nil => rfl
  | cons a p ih =>
    simp only [List.all_cons, Bool.and_eq_true, Bool.not_eq_true'] at h
    rw [List.cons_append, finalTmp_neutral rq tmp _ h.1]; exact ih h.2

theorem finalTmp_noPriv (rq : Req) (tmp : Inode) {p : List Act} (h : p.all (fun b => !b.isPriv) = true) :
    finalTmp rq tmp p = tmp := by
  have := finalTmp_append_noPriv rq tmp [] h
  rwa [List.append_nil] at this

theorem finalTmp_setProg (rq : Req) (tmp : Inode) (l : List (Attr × Val)) (p : List Act) :
    finalTmp rq tmp (setProg l ++ p) = finalTmp rq { tmp with attrs := applySets tmp.attrs l } p := by
  induction l generalizing tmp with
  | nil => rfl
  | cons x l ih => exact ih { tmp with attrs := setAttr tmp.attrs x.1 x.2 }

theorem finalTmp_filter (rq : Req) (tmp : Inode) (p : List Act) (f : Act → Bool)
    (h : ∀ a, f a = false → a.isPriv = false) : finalTmp rq tmp (p.filter f) = finalTmp rq tmp p := by
  induction p generalizing tmp with
  | nil => rfl
  | cons a p ih =>
    cases hf : f a
    · rw [List.filter_cons_of_neg (by simp [hf]), finalTmp_neutral rq tmp p (h a hf)]; exact ih tmp
    · rw [List.filter_cons_of_pos hf]
      cases a <;> exact ih _

/-- after the first step that `trig` marks, no step that `stop` marks. -/
def noneAfter (trig stop : Act → Bool) : List Act → Bool
  | [] => true
  | a :: p => if trig a then p.all (fun b => !stop b) else noneAfter trig stop p

theorem okOrder_eq : okOrder = noneAfter Act.isPub Act.isPriv := by
  funext p
  induction p with
  | nil => rfl
  | cons a p ih => simp only [okOrder, noneAfter, ih]

section
variable {trig stop : Act → Bool}

theorem noneAfter_neg {a : Act} (p : List Act) (h : trig a = false) :
    noneAfter trig stop (a :: p) = noneAfter trig stop p := by
  simp [noneAfter, h]

theorem noneAfter_pos {a : Act} (p : List Act) (h : trig a = true) :
    noneAfter trig stop (a :: p) = p.all (fun b => !stop b) := by
  simp [noneAfter, h]

theorem noneAfter_of_all {p : List Act} (h : p.all (fun b => !stop b) = true) : noneAfter trig stop p = true := by
  induction p with
  | nil => rfl
  | cons a p ih =>
    simp only [List.all_cons, Bool.and_eq_true] at h
    cases hp : trig a
    · rw [noneAfter_neg p hp]; exact ih h.2
    · rw [noneAfter_pos p hp]; exact h.2

theorem noneAfter_tail {a : Act} {p : List Act} (h : noneAfter trig stop (a :: p) = true) :
    noneAfter trig stop p = true := by
  cases hp : trig a
  · rwa [noneAfter_neg p hp] at h
  · rw [noneAfter_pos p hp] at h; exact noneAfter_of_all h

theorem all_filter_of_all {α} (p : List α) (f g : α → Bool) (h : p.all g = true) : (p.filter f).all g = true := by
  simp only [List.all_eq_true, List.mem_filter] at *
  intro x hx; exact h x hx.1

theorem noneAfter_filter (p : List Act) (f : Act → Bool) (h : noneAfter trig stop p = true) :
    noneAfter trig stop (p.filter f) = true := by
  induction p with
  | nil => rfl
  | cons a p ih =>
    cases hf : f a
    · rw [List.filter_cons_of_neg (by simp [hf])]; exact ih (noneAfter_tail h)
    · rw [List.filter_cons_of_pos hf]
      cases hp : trig a
      · rw [noneAfter_neg _ hp] at h ⊢; exact ih h
      · rw [noneAfter_pos _ hp] at h ⊢; exact all_filter_of_all p f _ h

theorem noneAfter_append {p : List Act} (q : List Act) (h : p.all (fun b => !trig b) = true) :
    noneAfter trig stop (p ++ q) = noneAfter trig stop q := by
  induction p with
  | nil => rfl
  | cons a p ih =>
    simp only [List.all_cons, Bool.and_eq_true, Bool.not_eq_true'] at h
    rw [List.cons_append, noneAfter_neg _ h.1]; exact ih h.2

end

def hasPub (p : List Act) : Bool := p.any Act.isPub

/-- as long as a publishing step is still ahead: the request is a write, the private steps still to
    run complete the temp inode to the write's whole object, and none of them comes after the
    publishing step. -/
def RInv (rq : Req) (l : Local) : Prop :=
  hasPub l.prog = true →
    rq.kind.isWrite = true ∧ finalTmp rq l.tmp l.prog = written rq ∧ okOrder l.prog = true

def Act.neutral (a : Act) : Bool := !a.isPriv && !a.isPub

theorem Act.neutral_iff {a : Act} : a.neutral = true ↔ a.isPriv = false ∧ a.isPub = false := by
  simp [Act.neutral]

theorem hasPub_cons (a : Act) (p : List Act) : hasPub (a :: p) = (a.isPub || hasPub p) := rfl

theorem hasPub_append (p q : List Act) : hasPub (p ++ q) = (hasPub p || hasPub q) := List.any_append

theorem hasPub_filter {p : List Act} {f : Act → Bool} (h : hasPub (p.filter f) = true) : hasPub p = true := by
  simp only [hasPub, List.any_eq_true, List.mem_filter] at *
  obtain ⟨x, hx, hp⟩ := h
  exact ⟨x, hx.1, hp⟩

theorem RInv_of_noPub {rq : Req} {l : Local} (h : hasPub l.prog = false) : RInv rq l := by
  intro hp; rw [h] at hp; cases hp

theorem RInv_transfer {rq : Req} {l l' : Local} {a : Act} {rest n : List Act} {f : Act → Bool}
    (h : RInv rq l) (hp : l.prog = a :: rest) (ha : a.isPriv = false)
    (htmp : l'.tmp = l.tmp) (hprog : l'.prog = n ++ rest.filter f)
    (hnpriv : n.all (fun b => !b.isPriv) = true) (hnpub : (!a.isPub && hasPub n) = false)
    (hf : ∀ b, f b = false → b.neutral = true) : RInv rq l' := by
  intro hpub
  rw [hprog, hasPub_append, Bool.or_eq_true] at hpub
  have hpub0 : hasPub (a :: rest) = true := by
    rw [hasPub_cons, Bool.or_eq_true]
    rcases hpub with hpn | hpr
    · cases hap : a.isPub
      · rw [hap, hpn] at hnpub; cases hnpub
      · exact .inl rfl
    · exact .inr (hasPub_filter hpr)
  obtain ⟨hw, hft, hok⟩ := h (hp ▸ hpub0)
  rw [hp] at hft hok
  rw [finalTmp_neutral _ _ _ ha] at hft
  rw [okOrder_eq] at hok ⊢
  refine ⟨hw, ?_, ?_⟩
  · rw [hprog, htmp, finalTmp_append_noPriv _ _ _ hnpriv, finalTmp_filter _ _ _ _ fun b hb => (Act.neutral_iff.1 (hf b hb)).1]
    exact hft
  · rw [hprog]
    cases hap : a.isPub
    · -- nothing publishing was queued
      rw [noneAfter_append]
      · exact noneAfter_filter rest f (noneAfter_neg rest hap ▸ hok)
      · rw [hap] at hnpub
        exact List.all_eq_true.2 fun b hb => Bool.not_eq_true' _ ▸ Bool.eq_false_iff.2 fun hbp =>
          Bool.false_ne_true (hnpub.symm.trans (List.any_eq_true.2 ⟨b, hb, hbp⟩))
    · -- a publishing attempt: nothing private is left at all
      rw [noneAfter_pos rest hap] at hok
      refine noneAfter_of_all ?_
      rw [List.all_append, hnpriv, all_filter_of_all rest f _ hok]; rfl

theorem RInv_queue {rq : Req} {l l' : Local} {a : Act} {rest : List Act} (n : List Act)
    (h : RInv rq l) (hp : l.prog = a :: rest) (ha : a.isPriv = false)
    (htmp : l'.tmp = l.tmp) (hprog : l'.prog = n ++ rest)
    (hnpriv : n.all (fun b => !b.isPriv) = true) (hnpub : (!a.isPub && hasPub n) = false) : RInv rq l' :=
  RInv_transfer (f := fun _ => true) h hp ha htmp (by rw [hprog, List.filter_eq_self.2 fun _ _ => rfl]) hnpriv hnpub
    (fun _ h => nomatch h)

theorem RInv_priv {rq : Req} {l l' : Local} {a : Act} {rest : List Act} (h : RInv rq l) (hp : l.prog = a :: rest)
    (ha : a.isPub = false) (hprog : l'.prog = rest)
    (htmp : finalTmp rq l'.tmp rest = finalTmp rq l.tmp (a :: rest)) : RInv rq l' := by
  intro hpub
  rw [hprog] at hpub ⊢
  obtain ⟨hw, hft, hok⟩ := h (by rw [hp, hasPub_cons, hpub, Bool.or_true])
  rw [hp] at hft hok
  exact ⟨hw, htmp ▸ hft, by rw [okOrder_eq] at hok ⊢; exact noneAfter_neg rest ha ▸ hok⟩

theorem RInv_read {rq : Req} {l : Local} {a : Act} {rest : List Act} (hp : l.prog = a :: rest) (h : RInv rq l)
    (ha : a.neutral = true) (t : Option Inode) (vs : List (Option Nat)) :
    RInv rq (readAct t { l with prog := rest, views := vs } a) := by
  have ha' := (Act.neutral_iff.1 ha).1
  have htmp := (readAct_frame t { l with prog := rest, views := vs } a).1
  rcases readAct_prog t { l with prog := rest, views := vs } a with ⟨_, e⟩ | ⟨_, e | e | ⟨_, ks, e⟩⟩
  · exact RInv_of_noPub (by rw [e]; rfl)
  · exact RInv_queue [] h hp ha' htmp e rfl (Bool.and_false _)
  · exact RInv_transfer (n := []) h hp ha' htmp e rfl (Bool.and_false _) fun b hb => by cases b <;> first | rfl | cases hb
  · have hg : hasPub (ks.map .getmeta) = false := List.any_eq_false.2 fun b hb => by
      obtain ⟨k, _, rfl⟩ := List.mem_map.1 hb; exact Bool.false_ne_true
    exact RInv_queue _ h hp ha' htmp e (by rw [List.all_map]; exact List.all_eq_true.2 fun _ _ => rfl)
      (by rw [hg]; exact Bool.and_false _)

theorem RInv_exec (c : Cfg) (rq : Req) (fs : FS) (l : Local) (a : Act) (rest : List Act)
    (hp : l.prog = a :: rest) (h : RInv rq l) : RInv rq (execAct c rq fs { l with prog := rest } a).2 := by
  cases a with
  | wstat | lstat | rmdirProbe | statign | linktmp | rename => exact RInv_queue [] h hp rfl rfl rfl rfl rfl
  | opentmp | setattr _ _ => exact RInv_priv h hp rfl rfl rfl
  | unlink => simp only [execAct]; split
              · exact RInv_queue [] h hp rfl rfl rfl rfl rfl
              · exact RInv_queue [.rmdirProbe] h hp rfl rfl rfl rfl rfl
  | linkat => simp only [execAct]; split
              · exact RInv_queue [] h hp rfl rfl rfl rfl rfl
              · exact RInv_queue [.unlink, .linkat] h hp rfl rfl rfl rfl rfl
  | linkatx => simp only [execAct]; split
               · exact RInv_queue [] h hp rfl rfl rfl rfl rfl
               · exact RInv_queue [.linktmp, .lstat, .rename] h hp rfl rfl rfl rfl rfl
  | cstat | dstat | ropen =>
    simp only [execAct]; split
    · exact RInv_of_noPub rfl
    · exact RInv_queue [] h hp rfl rfl rfl rfl rfl
  | dunlink => simp only [execAct]; split
               · exact RInv_queue [] h hp rfl rfl rfl rfl rfl
               · exact RInv_of_noPub rfl
  | rstat | listsize | listnames | getmeta _ | gethdr _ | getetag | gettags => exact RInv_read hp h rfl _ _

theorem RInv_pub {rq : Req} {l : Local} {a : Act} {rest : List Act} (h : RInv rq l) (hp : l.prog = a :: rest)
    (ha : a.isPub = true) : rq.kind.isWrite = true ∧ l.tmp = written rq := by
  obtain ⟨hw, hft, hok⟩ := h (by rw [hp, hasPub_cons, ha]; rfl)
  rw [hp] at hft hok
  rw [okOrder_eq, noneAfter_pos rest ha] at hok
  have hpriv : a.isPriv = false := by cases a <;> first | rfl | cases ha
  rw [finalTmp_neutral _ _ _ hpriv, finalTmp_noPriv _ _ hok] at hft
  exact ⟨hw, hft⟩

theorem program_write (c : Cfg) (rq : Req) (hw : rq.kind.isWrite = true) :
    ∃ pre, (pre = [.wstat, .opentmp] ∨ pre = [.opentmp, .wstat]) ∧
      program c rq =
        pre ++ (setProg rq.sets ++ (publishProg c.strat ++ if rq.kind = .copy then [.cstat] else [])) := by
  cases hk : rq.kind <;> simp [hk, Kind.isWrite] at hw
  · exact ⟨_, .inl rfl, by simp [program, hk, Req.sets]⟩
  · exact ⟨_, .inl rfl, by simp [program, hk, Req.sets]⟩
  · exact ⟨_, .inr rfl, by simp [program, hk, Req.sets, setProg]⟩

theorem program_write_all (c : Cfg) (rq : Req) (hw : rq.kind.isWrite = true) (q : Act → Bool)
    (h1 : q .wstat = true) (h2 : ∀ a, a.isPriv = true → q a = true) (h3 : q .cstat = true)
    (h4 : (publishProg c.strat).all q = true) : (program c rq).all q = true := by
  obtain ⟨pre, hpre, e⟩ := program_write c rq hw
  have hset : (setProg rq.sets).all q = true := by
    rw [setProg, List.all_map]; exact List.all_eq_true.2 fun _ _ => h2 _ rfl
  have hpost : (if rq.kind = .copy then [Act.cstat] else []).all q = true := by
    split
    · rw [List.all_cons, h3]; rfl
    · rfl
  have hpre' : pre.all q = true := by
    rcases hpre with rfl | rfl <;> simp only [List.all_cons, h1, h2 .opentmp rfl] <;> rfl
  rw [e, List.all_append, List.all_append, List.all_append, hpre', hset, h4, hpost]; rfl

theorem program_read_all (c : Cfg) (rq : Req) (hr : rq.kind.isRead = true) :
    (program c rq).all (fun a => a.isReadAct && !a.removes && !a.isPub) = true := by
  cases hk : rq.kind <;> simp [hk, Kind.isRead] at hr <;>
    (cases hm : c.rmode <;> simp only [program, hk, hm] <;> rfl)

theorem RInv_init (c : Cfg) (rq : Req) : RInv rq { prog := program c rq } := by
  intro hpub
  cases hw : rq.kind.isWrite
  · -- neither a DELETE nor a read publishes
    exfalso
    have hno : hasPub (program c rq) = false := by
      cases hk : rq.kind <;> simp [hk, Kind.isWrite] at hw
      · simp [program, hk, hasPub, Act.isPub]
      all_goals
        have := program_read_all c rq (by rw [hk]; rfl)
        simp only [List.all_eq_true, Bool.and_eq_true, Bool.not_eq_true'] at this
        simp only [hasPub, List.any_eq_false]
        intro a ha; rw [(this a ha).2]; exact Bool.false_ne_true
    rw [hno] at hpub; cases hpub
  · obtain ⟨pre, hpre, e⟩ := program_write c rq hw
    have hpost : (publishProg c.strat ++ if rq.kind = .copy then [Act.cstat] else []).all (fun b => !b.isPriv) = true := by
      rw [List.all_append, show (publishProg c.strat).all (fun b => !b.isPriv) = true by cases c.strat <;> rfl]
      split <;> rfl
    refine ⟨rfl, ?_, ?_⟩ <;> simp only [e]
    · have : finalTmp rq ⟨⟨0, 0⟩, []⟩ (pre ++ (setProg rq.sets ++ (publishProg c.strat ++ if rq.kind = .copy then [.cstat] else []))) =
          finalTmp rq ⟨rq.w.blob, []⟩ (setProg rq.sets ++ (publishProg c.strat ++ if rq.kind = .copy then [.cstat] else [])) := by
        rcases hpre with rfl | rfl <;> rfl
      rw [this, finalTmp_setProg, finalTmp_noPriv _ _ hpost]; rfl
    · have hpre' : pre.all (fun b => !b.isPub) = true := by rcases hpre with rfl | rfl <;> rfl
      have hset : (setProg rq.sets).all (fun b => !b.isPub) = true := by
        rw [setProg, List.all_map]; exact List.all_eq_true.2 fun _ _ => rfl
      rw [okOrder_eq, noneAfter_append _ hpre', noneAfter_append _ hset]
      exact noneAfter_of_all hpost

/-- the filesystem half of `GInv`. -/
structure FsInv (fs0 : FS) (rqs : List Req) (fs : FS) : Prop where
  last : KeyLast fs
  vals : ∀ ino ∈ fs.inodes, ino ∈ fs0.inodes ∨ ∃ rq ∈ rqs, rq.kind.isWrite = true ∧ ino = written rq

structure GInv (fs0 : FS) (rqs : List Req) (s : State) : Prop extends FsInv fs0 rqs s.fs where
  reqs : ∀ (i : Nat) (rq : Req) (l : Local), s.reqs[i]? = some (rq, l) → rqs[i]? = some rq
  rinv : ∀ p ∈ s.reqs, RInv p.1 p.2

theorem KeyLast_own {c : Cfg} {fs : FS} {rq : Req} {l : Local} {a : Act} {rest : List Act} (h : KeyLast fs) :
    KeyLast (after c rq fs l a rest).1 := by
  rcases execAct_fs c rq fs { l with prog := rest } a with e | ⟨_, e⟩ | ⟨_, e⟩ <;> simp only [e]
  · exact h
  · exact fun _ h => nomatch h
  · intro k hk; cases hk; rw [List.length_append]; rfl

theorem FsInv_own {c : Cfg} {fs0 : FS} {rqs : List Req} {fs : FS} {rq : Req} {l : Local} {a : Act} {rest : List Act}
    (g : FsInv fs0 rqs fs) (hrq : rq ∈ rqs) (hR : RInv rq l) (hp : l.prog = a :: rest) :
    FsInv fs0 rqs (after c rq fs l a rest).1 := by
  refine ⟨KeyLast_own g.last, ?_⟩
  rcases execAct_fs c rq fs { l with prog := rest } a with e | ⟨_, e⟩ | ⟨hpub, e⟩ <;> simp only [e]
  · exact g.vals
  · exact g.vals
  · intro ino hino
    rcases List.mem_append.1 hino with hold | hnew
    · exact g.vals ino hold
    · obtain ⟨hw, htmp⟩ := RInv_pub hR hp hpub
      exact .inr ⟨rq, hrq, hw, (List.mem_singleton.1 hnew).trans htmp⟩

/-- `reach_induct` from the initial state with `FsInv ∧ G` and `(rqs[i]? = some rq ∧ RInv rq l) ∧ P`:
    the own-step case of `G`, `P` may use `FsInv` and `RInv`. -/
theorem reach_init {c : Cfg} {fs0 : FS} {rqs : List Req} {s : State} {G : FS → Prop} {P : Nat → FS → Req → Local → Prop}
    (mono : ∀ i fs fs' rq l, (∃ ext, fs'.inodes = fs.inodes ++ ext) → P i fs rq l → P i fs' rq l)
    (own : ∀ i fs rq l a rest, rqs[i]? = some rq → FsInv fs0 rqs fs → RInv rq l → G fs → P i fs rq l → l.prog = a :: rest →
      G (after c rq fs l a rest).1 ∧ P i (after c rq fs l a rest).1 rq (after c rq fs l a rest).2)
    (g0 : G fs0) (p0 : ∀ i rq, rqs[i]? = some rq → P i fs0 rq { prog := program c rq })
    (h0 : KeyLast fs0) (h : Reach c (init c fs0 rqs) s) :
    GInv fs0 rqs s ∧ G s.fs ∧ ∀ i rq l, s.reqs[i]? = some (rq, l) → P i s.fs rq l := by
  obtain ⟨⟨hfs, hG⟩, hreq⟩ := reach_induct (c := c) (G := fun fs => FsInv fs0 rqs fs ∧ G fs)
    (P := fun i fs rq l => (rqs[i]? = some rq ∧ RInv rq l) ∧ P i fs rq l)
    (fun i fs fs' rq l he ⟨hbase, hP⟩ => ⟨hbase, mono i fs fs' rq l he hP⟩)
    (fun i fs rq l a rest ⟨hfs, hG⟩ ⟨⟨hrq, hR⟩, hP⟩ hp =>
      have ho := own i fs rq l a rest hrq hfs hR hG hP hp
      ⟨⟨FsInv_own hfs (List.mem_of_getElem? hrq) hR hp, ho.1⟩, ⟨hrq, fun hpub => by
          simp only [finalize_prog, finalize_tmp] at hpub ⊢
          exact RInv_exec c rq fs l a rest hp hR hpub⟩, ho.2⟩)
    ⟨⟨h0, fun _ h => .inl h⟩, g0⟩
    (fun i rq l hi => by
      obtain ⟨h1, rfl⟩ := init_reqs hi
      exact ⟨⟨h1, RInv_init c rq⟩, p0 i rq h1⟩) h
  refine ⟨⟨hfs, fun i rq l hi => (hreq i rq l hi).1.1, fun p hp => ?_⟩, hG, fun i rq l hi => (hreq i rq l hi).2⟩
  obtain ⟨i, hi⟩ := List.getElem?_of_mem hp
  exact (hreq i p.1 p.2 hi).1.2

theorem GInv_reach {c : Cfg} {fs0 : FS} {rqs : List Req} {s : State} (h0 : KeyLast fs0)
    (h : Reach c (init c fs0 rqs) s) : GInv fs0 rqs s :=
  (reach_init (G := fun _ => True) (P := fun _ _ _ _ => True) (fun _ _ _ _ _ _ _ => trivial)
    (fun _ _ _ _ _ _ _ _ _ _ _ _ => ⟨trivial, trivial⟩) trivial (fun _ _ _ => trivial) h0 h).1

end Vgw.Model.Conc
