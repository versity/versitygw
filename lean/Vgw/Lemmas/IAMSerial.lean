/-
  Serialisation of account changes: the ghost log records every change at the step that decides
  it under the write lock; the committed image is the replay of the log, and every returned change
  is in the log exactly once with the answer it returned.
-/
import Vgw.Lemmas.IAMLock
import Vgw.Lemmas.IAMPending
namespace Vgw.Model.IAM
open Vgw
open Vgw.Model.Gw (Account Role)

/-- apply the logged changes one after the other, checking the logged answers -/
def replay (cfg : Cfg) : Store → List LogEntry → Option Store
  | s, [] => some s
  | s, e :: rest =>
    match mutateR cfg s e.op with
    | .ok s' => if e.res = .ok then replay cfg s' rest else none
    | .error r => if e.res = r then replay cfg s rest else none

theorem replay_append (cfg : Cfg) (s : Store) (l1 l2 : List LogEntry) :
    replay cfg s (l1 ++ l2) = (replay cfg s l1).bind (fun s' => replay cfg s' l2) := by
  induction l1 generalizing s with
  | nil => rfl
  | cons x rest ih =>
    simp only [List.cons_append, replay]
    split
    · split
      · exact ih _
      · rfl
    · split
      · exact ih _
      · rfl

theorem replay_single {cfg : Cfg} {s s' : Store} {i : Nat} {op : Op} {r : Res}
    (h : replay cfg s [⟨i, op, r⟩] = some s') :
    (mutateR cfg s op = .ok s' ∧ r = .ok) ∨ (mutateR cfg s op = .error r ∧ s' = s) := by
  simp only [replay] at h
  split at h
  · rename_i s'' hm
    split at h
    · rename_i hr; cases h; left; exact ⟨hm, hr⟩
    · cases h
  · rename_i e hm
    split at h
    · rename_i hr; cases h; right; exact ⟨by rw [hm, hr], rfl⟩
    · cases h

theorem apply_of_replay {cfg : Cfg} {s s' : Store} {e : LogEntry} (hm : e.op.isMut = true)
    (h : replay cfg s [e] = some s') : Spec.IAM.apply cfg.root (abs s) e.op = (abs s', e.res) := by
  have hsp := mutateR_spec cfg s e.op hm
  rcases replay_single (i := e.id) h with ⟨h1, hr⟩ | ⟨h1, rfl⟩ <;> rw [h1] at hsp
  · rw [hr]; exact hsp
  · exact hsp

/-- the answer of a mutation, once it is decided -/
def decided : PC → Option Res
  | .mRenamed | .mCache => some .ok
  | .mFailed e => some e
  | .done r => some r
  | _ => none

def ownLog (i : Nat) (c : Call) : List LogEntry :=
  if c.op.isMut = true then (match decided c.pc with | some r => [⟨i, c.op, r⟩] | none => []) else []

/-- `own`: under a call's index the log holds exactly that call's decision, once decided — at most
one entry per change, none for lookups and listings -/
structure SInv (cfg : Cfg) (s0 : Store) (σ : State) : Prop where
  rep : replay cfg s0 σ.log = some σ.committed
  ids : ∀ e ∈ σ.log, e.id < σ.calls.length
  muts : ∀ e ∈ σ.log, e.op.isMut = true
  own : ∀ (i : Nat) (c : Call), σ.calls[i]? = some c → σ.log.filter (fun e => e.id == i) = ownLog i c

theorem SInv.log_new {cfg : Cfg} {s0 : Store} {σ : State} (h : SInv cfg s0 σ) :
    σ.log.filter (fun e => e.id == σ.calls.length) = [] :=
  List.filter_eq_nil_iff.mpr fun e he => by simpa using Nat.ne_of_lt (h.ids e he)

/-- a step that does not decide anything -/
theorem SInv.frame {cfg : Cfg} {s0 : Store} {σ σ₁ : State} {i : Nat} {c : Call} {pc' : PC} (h : SInv cfg s0 σ)
    (hi : σ.calls[i]? = some c)
    (hlog : σ₁.log = σ.log) (hc : σ₁.committed = σ.committed) (hcalls : σ₁.calls = σ.calls)
    (hd : c.op.isMut = true → decided pc' = decided c.pc) :
    SInv cfg s0 (σ₁.setCall i ⟨c.op, pc'⟩) := by
  refine ⟨?_, ?_, ?_, forall_setCall hcalls ?_ fun j cj _ hj => ?_⟩ <;> simp only [State.setCall, hlog, hc, hcalls, List.length_set]
  · exact h.rep
  · exact h.ids
  · exact h.muts
  · rw [h.own i c hi]
    unfold ownLog
    by_cases hm : c.op.isMut = true
    · rw [if_pos hm, if_pos hm, hd hm]
    · rw [if_neg hm, if_neg hm]
  · exact h.own j cj hj

/-- the step that decides mutation i: one entry is appended -/
theorem SInv.decide {cfg : Cfg} {s0 : Store} {σ σ₁ : State} {i : Nat} {c : Call} {pc' : PC} {r : Res} (h : SInv cfg s0 σ)
    (hi : σ.calls[i]? = some c)
    (hlog : σ₁.log = σ.log ++ [⟨i, c.op, r⟩]) (hcalls : σ₁.calls = σ.calls)
    (hm : c.op.isMut = true) (hd0 : decided c.pc = none) (hd1 : decided pc' = some r)
    (hstep : replay cfg σ.committed [⟨i, c.op, r⟩] = some σ₁.committed) :
    SInv cfg s0 (σ₁.setCall i ⟨c.op, pc'⟩) := by
  refine ⟨?_, ?_, ?_, forall_setCall hcalls ?_ fun j cj hji hj => ?_⟩ <;>
    simp only [State.setCall, hlog, hcalls, List.length_set, List.mem_append, List.mem_singleton, List.filter_append]
  · rw [replay_append, h.rep]; exact hstep
  · rintro e (he | rfl)
    · exact h.ids e he
    · exact lt_of_getElem? hi
  · rintro e (he | rfl)
    · exact h.muts e he
    · exact hm
  · rw [h.own i c hi]; simp [ownLog, hm, hd0, hd1]
  · rw [h.own j cj hj]; simp [Ne.symm hji]

theorem mutateR_of_PcT {cfg : Cfg} {op : Op} {pc : PC} (hT : PcT cfg ⟨op, pc⟩) (hw : inW pc = true) (b : Store) :
    mutateR cfg b op = mutate b op := by
  cases op with
  | create a => simp [mutateR, (hT.1 (.inl hw)).2 a rfl]
  | _ => rfl

theorem SInv.step {v : Variant} {cfg : Cfg} {s0 : Store} {σ σ₁ : State} {i : Nat} {op : Op} {pc pc' : PC}
    (hW : Wf cfg σ) (hT : PcT cfg ⟨op, pc⟩) (h : SInv cfg s0 σ) (hi : σ.calls[i]? = some ⟨op, pc⟩)
    (hs : Step v cfg σ i op pc σ₁ pc') : SInv cfg s0 (σ₁.setCall i ⟨op, pc'⟩) := by
  have hL := (hW.l.calls i _ hi).pc
  cases hs
  -- the three decisions
  case refuse a hop hr =>
    refine h.decide hi rfl rfl (hop ▸ rfl) rfl rfl ?_
    simp [replay, mutateR, hop, hr]
  case fail b e he =>
    refine h.decide hi rfl rfl (hT.1 (.inl rfl)).1 rfl rfl ?_
    simp [replay, mutateR_of_PcT hT rfl, ← hL.1, he]
  case commit b' =>
    refine h.decide hi rfl rfl (hT.1 (.inl rfl)).1 rfl rfl ?_
    simp [replay, mutateR_of_PcT hT rfl, hL.1]
  case hit hop _ _ | miss hop | listLock hop _ => exact h.frame hi rfl rfl rfl fun hm => by rw [hop] at hm; cases hm
  case rootFetched | getLock | getRead | getNone | getSome | store | drop =>
    obtain ⟨k, hk⟩ := hT.2.2 rfl
    exact h.frame hi rfl rfl rfl fun hm => by rw [hk] at hm; cases hm
  case listRead | listDone => exact h.frame hi rfl rfl rfl fun hm => by rw [hT.2.1 rfl] at hm; cases hm
  all_goals exact h.frame hi rfl rfl rfl fun _ => rfl

end Vgw.Model.IAM
