/-
  The walk is a left fold of the callback over the *visible* events: the pruning decisions (SkipDir)
  do not depend on the state. Over events with ascending paths `pastMarker` can be frozen at its
  initial value; for that the callback is first brought into a normal form in which `pastMarker` is
  read in one place only.
-/
import Vgw.Lemmas.Cut
import Vgw.Model.Walk
namespace Vgw.Model.Walk
open Vgw

/-- one invocation of the callback: what `fs.WalkDir` hands to it -/
structure Ev where
  path : Bytes          -- Go path, without trailing '/'
  name : Bytes
  isDir : Bool
  noEnts : Bool
  deriving Repr, DecidableEq

/-- the path as compared with the marker (the callback appends '/' to directories) -/
def Ev.epath (e : Ev) : Bytes := if e.isDir then e.path ++ [slash] else e.path

def Act.flag : Act → Ret
  | .ret r => r
  | .past r => r
  | .obj _ _ r => r
  | .cp _ r => r

def actAt (c : Cfg) (pm : Bool) (e : Ev) : Act := act c pm e.path e.name e.isDir e.noEnts

/-- the callback's return value unless it is SkipAll: a function of the event alone -/
def flagOf (c : Cfg) (e : Ev) : Ret :=
  if e.isDir && c.skip.contains e.path then .skipDir else
  if e.isDir then
    let pslash := e.path ++ [slash]
    if c.pfx ≠ [] && !hasPrefix pslash c.pfx && !hasPrefix c.pfx pslash then .skipDir else
    if c.delim ≠ [] && hasPrefix pslash c.pfx && containsSub (trimPrefix pslash c.pfx) c.delim then .skipDir
    else .nil
  else .nil

theorem actObj_flag (c : Cfg) (k mk : Bytes) (r : Ret) : (actObj c k mk r).flag = r := by
  unfold actObj; split <;> rfl

theorem actObj_ne_past (c : Cfg) (k mk : Bytes) (r r' : Ret) : actObj c k mk r ≠ .past r' := by
  unfold actObj; split <;> simp

/-- `actTail` behind its two marker tests -/
def actBody (c : Cfg) (path : Bytes) (skipflag : Ret) : Act :=
  if c.pfx ≠ [] && !hasPrefix path c.pfx then .ret skipflag else
  if c.delim = [] then actObj c path path skipflag else
  match cut c.delim (trimPrefix path c.pfx) with
  | none => actObj c path path skipflag
  | some before =>
    if c.pfx ++ before ++ c.delim == c.marker then .past skipflag else
    if c.marker ≠ [] && hasPrefix c.marker (c.pfx ++ before) then .ret skipflag else
    .cp (c.pfx ++ before ++ c.delim) skipflag

theorem actTail_eq (c : Cfg) (pm : Bool) (p : Bytes) (r : Ret) : actTail c pm p r =
    if !pm && p == c.marker then .past r else
    if !pm && blt p c.marker then .ret r else actBody c p r := rfl

theorem prefixTest_iff (c : Cfg) (p : Bytes) :
    (decide (c.pfx ≠ []) && !hasPrefix p c.pfx) = true ↔ ¬ c.pfx <+: p := by
  rw [← hasPrefix_iff]
  by_cases h : c.pfx = []
  · simp [h, hasPrefix]
  · simp [h]

theorem actBody_of_not_prefix (c : Cfg) (p : Bytes) (r : Ret) (hP : ¬ c.pfx <+: p) : actBody c p r = .ret r :=
  if_pos ((prefixTest_iff c p).2 hP)

theorem actBody_append_none (c : Cfg) (s : Bytes) (r : Ret) (hcut : c.delim = [] ∨ cut c.delim s = none) :
    actBody c (c.pfx ++ s) r = actObj c (c.pfx ++ s) (c.pfx ++ s) r := by
  unfold actBody
  rw [if_neg (fun h => (prefixTest_iff c _).1 h (List.prefix_append _ _)), trimPrefix_append]
  rcases hcut with h | h
  · rw [if_pos h]
  · rw [h]; split <;> rfl

theorem actBody_append_some (c : Cfg) (s x : Bytes) (r : Ret) (hD : c.delim ≠ []) (hcut : cut c.delim s = some x) :
    actBody c (c.pfx ++ s) r =
      if c.pfx ++ x ++ c.delim == c.marker then .past r else
      if c.marker ≠ [] && hasPrefix c.marker (c.pfx ++ x) then .ret r else
      .cp (c.pfx ++ x ++ c.delim) r := by
  unfold actBody
  rw [if_neg (fun h => (prefixTest_iff c _).1 h (List.prefix_append _ _)), trimPrefix_append, if_neg hD, hcut]

theorem actBody_cases (c : Cfg) (p : Bytes) (r : Ret) :
    actBody c p r = .ret r ∨ actBody c p r = actObj c p p r ∨
    (actBody c p r = .past r ∧ ble c.marker p = true) ∨ ∃ n, actBody c p r = .cp n r := by
  by_cases hP : c.pfx <+: p
  · obtain ⟨s, rfl⟩ := hP
    by_cases hD : c.delim = []
    · exact Or.inr (Or.inl (actBody_append_none c s r (Or.inl hD)))
    · cases hcut : cut c.delim s with
      | none => exact Or.inr (Or.inl (actBody_append_none c s r (Or.inr hcut)))
      | some x =>
        rw [actBody_append_some c s x r hD hcut]
        split
        · rename_i hm
          refine Or.inr (Or.inr (Or.inl ⟨rfl, ?_⟩))
          rw [← beq_iff_eq.1 hm, List.append_assoc]
          exact ble_of_prefix _ _ ((List.prefix_append_right_inj _).2 (cut_some_spec _ _ _ hcut).1)
        · split
          · exact Or.inl rfl
          · exact Or.inr (Or.inr (Or.inr ⟨_, rfl⟩))
  · exact Or.inl (actBody_of_not_prefix c p r hP)

theorem actTail_cases (c : Cfg) (pm : Bool) (p : Bytes) (r : Ret) :
    actTail c pm p r = .ret r ∨ actTail c pm p r = actObj c p p r ∨
    (actTail c pm p r = .past r ∧ ble c.marker p = true) ∨ ∃ n, actTail c pm p r = .cp n r := by
  rw [actTail_eq]
  split
  · rename_i h
    rw [Bool.and_eq_true, beq_iff_eq] at h
    exact Or.inr (Or.inr (Or.inl ⟨rfl, by rw [h.2]; exact ble_refl _⟩))
  · split
    · exact Or.inl rfl
    · exact actBody_cases c p r

theorem actTail_flag (c : Cfg) (pm : Bool) (p : Bytes) (r : Ret) : (actTail c pm p r).flag = r := by
  rcases actTail_cases c pm p r with h | h | ⟨h, _⟩ | ⟨n, h⟩
  · rw [h]; rfl
  · rw [h]; exact actObj_flag ..
  · rw [h]; rfl
  · rw [h]; rfl

theorem actTail_past (c : Cfg) (pm : Bool) (p : Bytes) (r r' : Ret) (h : actTail c pm p r = .past r') :
    ble c.marker p = true := by
  rcases actTail_cases c pm p r with h' | h' | ⟨_, hle⟩ | ⟨n, h'⟩
  · rw [h'] at h; cases h
  · rw [h'] at h; exact absurd h (actObj_ne_past _ _ _ _ _)
  · exact hle
  · rw [h'] at h; cases h

theorem actTail_pm (c : Cfg) (p : Bytes) (r : Ret) (h : blt c.marker p = true) :
    actTail c true p r = actTail c false p r := by
  have h1 : (p == c.marker) = false := beq_false_of_ne (Ne.symm (blt_ne _ _ h))
  rw [actTail_eq, actTail_eq, h1, blt_asymm _ _ h]
  rfl

theorem actDir_flag (c : Cfg) (pm : Bool) (path : Bytes) (noEnts : Bool) :
    (actDir c pm path noEnts).flag =
      if c.pfx ≠ [] && !hasPrefix (path ++ [slash]) c.pfx && !hasPrefix c.pfx (path ++ [slash]) then .skipDir else
      if c.delim ≠ [] && hasPrefix (path ++ [slash]) c.pfx && containsSub (trimPrefix (path ++ [slash]) c.pfx) c.delim then .skipDir
      else .nil := by
  -- the flag of a conditional act is the conditional of the flags
  simp only [actDir, apply_ite Act.flag, actTail_flag, actObj_flag]
  simp only [Act.flag, ite_self]

theorem act_flag (c : Cfg) (pm : Bool) (e : Ev) : (actAt c pm e).flag = flagOf c e := by
  simp only [actAt, act, flagOf, apply_ite Act.flag, actDir_flag, actTail_flag]
  rfl

theorem ite_ne {α : Sort _} {b : Prop} [Decidable b] {x y z : α} (hx : x ≠ z) (hy : y ≠ z) : ite b x y ≠ z := by
  split <;> assumption

theorem flagOf_ne_skipAll (c : Cfg) (e : Ev) : flagOf c e ≠ .skipAll := by
  unfold flagOf
  exact ite_ne (by decide) (ite_ne (ite_ne (by decide) (ite_ne (by decide) (by decide))) (by decide))

/-- `f`, an act as a function of `pastMarker`, is the tail on path `p`, or neither reads nor sets
`pastMarker` -/
def TailOrConst (c : Cfg) (p : Bytes) (f : Bool → Act) : Prop :=
  (∃ r, ∀ pm, f pm = actTail c pm p r) ∨ ∃ a, (∀ pm, f pm = a) ∧ ∀ r, a ≠ .past r

theorem TailOrConst.ite {c : Cfg} {p : Bytes} {f g : Bool → Act} (b : Prop) [Decidable b]
    (hf : TailOrConst c p f) (hg : TailOrConst c p g) : TailOrConst c p (fun pm => if b then f pm else g pm) := by
  by_cases h : b
  · simpa only [h, if_true] using hf
  · simpa only [h, if_false] using hg

theorem TailOrConst.ret (c : Cfg) (p : Bytes) (r : Ret) : TailOrConst c p (fun _ => .ret r) :=
  Or.inr ⟨_, fun _ => rfl, fun _ h => Act.noConfusion h⟩

theorem TailOrConst.obj (c : Cfg) (p k mk : Bytes) (r : Ret) : TailOrConst c p (fun _ => actObj c k mk r) :=
  Or.inr ⟨_, fun _ => rfl, fun _ => actObj_ne_past _ _ _ _ _⟩

theorem TailOrConst.tail (c : Cfg) (p : Bytes) (r : Ret) : TailOrConst c p (fun pm => actTail c pm p r) :=
  Or.inl ⟨r, fun _ => rfl⟩

theorem TailOrConst.pm {c : Cfg} {p : Bytes} {f : Bool → Act} (hf : TailOrConst c p f)
    (h : blt c.marker p = true) : f true = f false := by
  rcases hf with ⟨r, hr⟩ | ⟨a, ha, _⟩
  · rw [hr, hr]; exact actTail_pm c p r h
  · rw [ha, ha]

theorem TailOrConst.past {c : Cfg} {p : Bytes} {f : Bool → Act} (hf : TailOrConst c p f) {pm : Bool} {r : Ret}
    (h : f pm = .past r) : ble c.marker p = true := by
  rcases hf with ⟨r', hr⟩ | ⟨a, ha, hne⟩
  · rw [hr] at h; exact actTail_past c pm p r' r h
  · rw [ha] at h; exact absurd h (hne r)

theorem actAt_tail_or_const (c : Cfg) (e : Ev) : TailOrConst c e.epath (fun pm => actAt c pm e) := by
  unfold actAt act Ev.epath
  cases e.isDir with
  | false =>
    simp only [Bool.false_and, Bool.false_eq_true, if_false]
    exact .tail ..
  | true =>
    simp only [Bool.true_and, if_true]
    unfold actDir
    exact .ite _ (.ret ..) (.ite _ (.ret ..) (.ite _ (.tail ..) (.ite _ (.obj ..) (.ite _ (.ret ..) (.tail ..)))))

theorem bump_truncated (c : Cfg) (s : St) (mk : Bytes) : (bump c s mk).truncated = s.truncated := by
  unfold bump; split <;> rfl

theorem bump_pastMarker (c : Cfg) (s : St) (mk : Bytes) : (bump c s mk).pastMarker = s.pastMarker := by
  unfold bump; split <;> rfl

theorem bump_objects (c : Cfg) (s : St) (mk : Bytes) : (bump c s mk).objects = s.objects := by
  unfold bump; split <;> rfl

theorem bump_cps (c : Cfg) (s : St) (mk : Bytes) : (bump c s mk).cps = s.cps := by
  unfold bump; split <;> rfl

theorem bump_full (c : Cfg) (N : Nat) (hmax : c.max = (N : Int)) (s : St) (mk : Bytes) (m : Nat)
    (hp : s.pastMax = false) (hm : s.objects.length + s.cps.length + m = N) :
    ((bump c s mk).pastMax = true ↔ m = 0) ∧ (bump c s mk).newMarker = if m = 0 then mk else s.newMarker := by
  have : s.objects.length + s.cps.length = N ↔ m = 0 := by omega
  unfold bump
  simp only [hmax, Int.natCast_inj, this]
  split <;> simp [*]

theorem apply_ret_eq (c : Cfg) (s : St) (r : Ret) : apply c s (.ret r) = (s, r) := rfl
theorem apply_past_eq (c : Cfg) (s : St) (r : Ret) : apply c s (.past r) = ({ s with pastMarker := true }, r) := rfl
theorem apply_obj_eq (c : Cfg) (s : St) (o : Obj) (mk : Bytes) (r : Ret) : apply c s (.obj o mk r) =
    if s.pastMax then ({ s with truncated := true }, .skipAll) else
    (bump c { s with objects := s.objects ++ [o] } mk, r) := rfl
theorem apply_cp_eq (c : Cfg) (s : St) (n : Bytes) (r : Ret) : apply c s (.cp n r) =
    if s.pastMax then ({ s with truncated := true }, .skipAll) else
    (bump c { s with cps := setInsert n s.cps } n, r) := rfl

theorem apply_snd (c : Cfg) (s : St) (a : Act) (hs : s.truncated = false) :
    (apply c s a).2 = if (apply c s a).1.truncated then .skipAll else a.flag := by
  have hr : ∀ r : Ret, r = if s.truncated then Ret.skipAll else r := fun r => by rw [hs]; rfl
  cases a with
  | ret r => exact hr r
  | past r => exact hr r
  | obj o mk r =>
    rw [apply_obj_eq]
    by_cases hp : s.pastMax = true
    · rw [if_pos hp]; rfl
    · rw [if_neg hp, bump_truncated]; exact hr r
  | cp n r =>
    rw [apply_cp_eq]
    by_cases hp : s.pastMax = true
    · rw [if_pos hp]; rfl
    · rw [if_neg hp, bump_truncated]; exact hr r

mutual
/-- the events the callback is invoked on: `fs.WalkDir` does not descend below a directory for which
the callback answers SkipDir -/
def visNode (c : Cfg) (base : Bytes) : Tree → List Ev
  | .file n => [⟨base ++ n, n, false, true⟩]
  | .dir n cs =>
    ⟨base ++ n, n, true, cs.isEmpty⟩ ::
      (if flagOf c ⟨base ++ n, n, true, cs.isEmpty⟩ = .nil then visList c (base ++ n ++ [slash]) cs else [])
def visList (c : Cfg) (base : Bytes) : List Tree → List Ev
  | [] => []
  | t :: ts => visNode c base t ++ visList c base ts
end

theorem visNode_file (c : Cfg) (b n : Bytes) : visNode c b (.file n) = [⟨b ++ n, n, false, true⟩] := by simp [visNode]

theorem visList_cons (c : Cfg) (b : Bytes) (t : Tree) (ts : List Tree) :
    visList c b (t :: ts) = visNode c b t ++ visList c b ts := by simp [visList]

/-- one act applied to the state; nothing happens any more once `truncated` is set (SkipAll) -/
def stepA (c : Cfg) (s : St) (a : Act) : St := if s.truncated then s else (apply c s a).1

def runA (c : Cfg) (s : St) (acts : List Act) : St := acts.foldl (stepA c) s

def step (c : Cfg) (s : St) (e : Ev) : St := stepA c s (actAt c s.pastMarker e)

def run (c : Cfg) (s : St) (evs : List Ev) : St := evs.foldl (step c) s

theorem stepA_truncated (c : Cfg) (s : St) (a : Act) (h : s.truncated = true) : stepA c s a = s := by
  simp [stepA, h]

theorem stepA_of_not_truncated (c : Cfg) (s : St) (a : Act) (h : s.truncated = false) :
    stepA c s a = (apply c s a).1 := by
  simp [stepA, h]

theorem runA_cons (c : Cfg) (s : St) (a : Act) (l : List Act) : runA c s (a :: l) = runA c (stepA c s a) l := rfl

theorem runA_truncated (c : Cfg) : ∀ (l : List Act) (s : St), s.truncated = true → runA c s l = s
  | [], _, _ => rfl
  | a :: l, s, h => by rw [runA_cons, stepA_truncated c s a h]; exact runA_truncated c l s h

theorem run_nil (c : Cfg) (s : St) : run c s [] = s := rfl
theorem run_cons (c : Cfg) (s : St) (e : Ev) (evs : List Ev) : run c s (e :: evs) = run c (step c s e) evs := rfl
theorem run_append (c : Cfg) (s : St) (a b : List Ev) : run c s (a ++ b) = run c (run c s a) b := by
  simp [run, List.foldl_append]

theorem run_truncated (c : Cfg) : ∀ (evs : List Ev) (s : St), s.truncated = true → run c s evs = s
  | [], _, _ => rfl
  | e :: evs, s, h => by rw [run_cons, step, stepA_truncated c s _ h]; exact run_truncated c evs s h

/-- what `walkDir` returns to its caller: SkipAll once `truncated` is set -/
def retOf (s : St) : Ret := if s.truncated then .skipAll else .nil

theorem cb_step (c : Cfg) (s : St) (e : Ev) (hs : s.truncated = false) :
    cb c s e.path e.name e.isDir e.noEnts =
      (step c s e, if (step c s e).truncated then .skipAll else flagOf c e) := by
  rw [step, stepA_of_not_truncated c s _ hs, ← act_flag c s.pastMarker]
  exact Prod.ext rfl (apply_snd c s _ hs)

mutual
theorem walkNode_eq_run (c : Cfg) : ∀ (t : Tree) (base : Bytes) (s : St), s.truncated = false →
    walkNode c base s t = (run c s (visNode c base t), retOf (run c s (visNode c base t)))
  | .file n, base, s, hs => by
    have hcb := cb_step c s ⟨base ++ n, n, false, true⟩ hs
    simp only at hcb
    unfold walkNode visNode
    rw [hcb, run_cons, run_nil]
    have hf : flagOf c ⟨base ++ n, n, false, true⟩ = .nil := by simp [flagOf]
    rw [hf]; rfl
  | .dir n cs, base, s, hs => by
    have hcb := cb_step c s ⟨base ++ n, n, true, cs.isEmpty⟩ hs
    simp only at hcb
    unfold walkNode visNode
    rw [hcb, run_cons]
    generalize hs1 : step c s ⟨base ++ n, n, true, cs.isEmpty⟩ = s1
    cases ht : s1.truncated with
    | true =>
      simp only [if_true]
      rw [run_truncated c _ s1 ht]
      simp [retOf, ht]
    | false =>
      simp only [Bool.false_eq_true, if_false]
      generalize hfl : flagOf c ⟨base ++ n, n, true, cs.isEmpty⟩ = fl
      cases fl with
      | nil =>
        simp only [if_true]
        exact walkList_eq_run c cs (base ++ n ++ [slash]) s1 ht
      | skipDir =>
        simp [run_nil, retOf, ht]
      | skipAll => exact absurd hfl (flagOf_ne_skipAll c _)
theorem walkList_eq_run (c : Cfg) : ∀ (ts : List Tree) (base : Bytes) (s : St), s.truncated = false →
    walkList c base s ts = (run c s (visList c base ts), retOf (run c s (visList c base ts)))
  | [], base, s, hs => by
    unfold walkList visList
    simp [run_nil, retOf, hs]
  | t :: ts, base, s, hs => by
    unfold walkList visList
    rw [walkNode_eq_run c t base s hs, run_append]
    generalize run c s (visNode c base t) = s1
    cases ht : s1.truncated with
    | true =>
      rw [run_truncated c _ s1 ht]
      simp [retOf, ht]
    | false =>
      simp only [retOf, ht, Bool.false_eq_true, if_false]
      exact walkList_eq_run c ts base s1 ht
end

/-- the act on `e` computed with `pastMarker` at its initial value -/
def act0 (c : Cfg) (e : Ev) : Act := actAt c (c.marker == []) e

theorem apply_pastMarker (c : Cfg) (s : St) (a : Act) (h : ∀ r, a ≠ .past r) :
    (apply c s a).1.pastMarker = s.pastMarker := by
  cases a with
  | ret r => rfl
  | past r => exact absurd rfl (h r)
  | obj o mk r => rw [apply_obj_eq]; split; · rfl
                  · exact bump_pastMarker ..
  | cp n r => rw [apply_cp_eq]; split; · rfl
              · exact bump_pastMarker ..

/-- the invariant: `pastMarker` still has its initial value, or it is set and every path to come is
above the marker, where no act reads it -/
theorem run_eq_runA (c : Cfg) : ∀ (evs : List Ev) (s : St),
    (evs.map Ev.epath).Pairwise (fun a b => blt a b = true) →
    (s.pastMarker = (c.marker == []) ∨ (s.pastMarker = true ∧ ∀ e ∈ evs, blt c.marker e.epath = true)) →
    run c s evs = runA c s (evs.map (act0 c))
  | [], _, _, _ => rfl
  | e :: evs, s, hsort, hinv => by
    rw [run_cons, List.map_cons, runA_cons]
    cases ht : s.truncated with
    | true => rw [step, stepA_truncated c s _ ht, stepA_truncated c s _ ht, run_truncated c _ s ht, runA_truncated c _ s ht]
    | false =>
      have hact : actAt c s.pastMarker e = act0 c e := by
        unfold act0
        rcases hinv with h | ⟨h1, h2⟩
        · rw [h]
        · rw [h1]
          cases hm : (c.marker == []) with
          | true => rfl
          | false => exact (actAt_tail_or_const c e).pm (h2 e (by simp))
      rw [step, hact]
      have hsort' : (∀ a ∈ evs, blt e.epath a.epath = true) ∧
          (evs.map Ev.epath).Pairwise (fun a b => blt a b = true) := by simpa using hsort
      apply run_eq_runA c evs _ hsort'.2
      rw [stepA_of_not_truncated c s _ ht]
      by_cases hp : ∃ r, act0 c e = .past r
      · obtain ⟨r, hr⟩ := hp
        right
        refine ⟨by rw [hr]; rfl, ?_⟩
        intro e' he'
        exact blt_of_ble_of_blt _ _ _ ((actAt_tail_or_const c e).past hr) (hsort'.1 e' he')
      · have hnp : ∀ r, act0 c e ≠ .past r := fun r hr => hp ⟨r, hr⟩
        rw [apply_pastMarker c s _ hnp]
        rcases hinv with h | ⟨h1, h2⟩
        · exact Or.inl h
        · exact Or.inr ⟨h1, fun e' he' => h2 e' (by simp [he'])⟩

end Vgw.Model.Walk
