/-
  C14, validation: the action tables, `Action.IsValid` / `Action.IsObjectAction` / `isValidResource`
  in the Spec's terms, loops that stop at the first error, and the decode hooks.
-/
import Vgw.Lemmas.Policy
namespace Vgw.Lemmas.Validate
open Vgw Vgw.Go.Strings Vgw.Model.Policy Vgw.Spec.Policy Vgw.Lemmas.Policy

theorem supported_shape :
    ∀ b ∈ supported, s3Prefix <+: b ∧ ¬ EndsInStar b ∧ ¬ allActions <+: b := by decide +kernel

theorem supported_ne_all : allActions ∉ supported :=
  fun h => (supported_shape _ h).2.2 (List.prefix_refl _)

theorem actionIsValid_nil : actionIsValid [] = false := by decide

theorem supportedActions_eq : supportedActions = supported ++ [allActions] := rfl
theorem objectActions_eq : objectActions = objectNames ++ [allActions] := rfl

theorem mem_supportedActions {b : Bytes} :
    b ∈ supportedActions ↔ b ∈ supported ∨ b = allActions := by
  rw [supportedActions_eq, List.mem_append, List.mem_singleton]

theorem mem_objectActions {b : Bytes} : b ∈ objectActions ↔ b ∈ objectNames ∨ b = allActions := by
  rw [objectActions_eq, List.mem_append, List.mem_singleton]

theorem mem_bucketNames {b : Bytes} : b ∈ bucketNames ↔ b ∈ supported ∧ b ∉ objectNames := by
  unfold bucketNames; rw [List.mem_filter, decide_eq_true_eq]

theorem covers_all {a : Bytes} (hp : s3Prefix <+: a) :
    Covers a allActions ↔ a = allActions ∨ a = doubleStar := by
  -- the candidates `pre*` with `pre` one of the five prefixes of `s3:*`
  have key : ∀ n < 5, s3Prefix <+: allActions.take n ++ [42] →
      allActions.take n ++ [42] = allActions ∨ allActions.take n ++ [42] = doubleStar := by decide
  constructor
  · rintro (h | ⟨he, hpre⟩)
    · exact Or.inl h
    · obtain ⟨pre, rfl⟩ := List.getLast?_eq_some_iff.1 he
      rw [List.dropLast_concat] at hpre
      rw [List.prefix_iff_eq_take.1 hpre] at hp ⊢
      exact key _ (Nat.lt_succ_of_le hpre.length_le) hp
  · rintro (rfl | rfl)
    · exact Or.inl rfl
    · exact Or.inr (by decide)

/-- The table lookup of `Action.IsValid` and `Action.IsObjectAction`; `c` is the caller's form of the
test for a final `*`. -/
theorem lookup_iff (T : List Bytes) (a : Bytes) (c : Prop) [Decidable c] (hc : c ↔ EndsInStar a) :
    (if c then T.any (fun b => hasPrefix b (trimSuffix a starLit)) else T.contains a) = true ↔
      ∃ b ∈ T, Covers a b := by
  by_cases he : EndsInStar a
  · rw [if_pos (hc.2 he), trimSuffix_star he, List.any_eq_true]
    simp only [hasPrefix_iff]
    constructor
    · rintro ⟨b, hb, hpre⟩; exact ⟨b, hb, Or.inr ⟨he, hpre⟩⟩
    · rintro ⟨b, hb, rfl | ⟨_, hpre⟩⟩
      · exact ⟨a, hb, List.dropLast_prefix a⟩
      · exact ⟨b, hb, hpre⟩
  · rw [if_neg (fun h => he (hc.1 h)), List.contains_iff_mem]
    constructor
    · intro h; exact ⟨a, h, Or.inl rfl⟩
    · rintro ⟨b, hb, rfl | ⟨he', _⟩⟩
      · exact hb
      · exact absurd he' he

theorem actionIsValid_iff {a : Bytes} :
    actionIsValid a = true ↔ s3Prefix <+: a ∧ ∃ b ∈ supportedActions, Covers a b := by
  unfold actionIsValid
  rw [← hasPrefix_iff]
  cases hasPrefix a s3Prefix with
  | false => rw [Bool.not_false, if_pos rfl]; exact ⟨fun h => (nomatch h), fun h => (nomatch h.1)⟩
  | true =>
    rw [Bool.not_true, if_neg Bool.false_ne_true, ← lookup_iff supportedActions a _ Iff.rfl]
    by_cases ha : a = allActions
    · subst ha; exact ⟨fun _ => ⟨rfl, by decide⟩, fun _ => rfl⟩
    · rw [if_neg ha]; exact ⟨fun h => ⟨rfl, h⟩, fun h => h.2⟩

theorem valid_of_strict {a : Bytes} (h : ActionOK .strict a) : actionIsValid a = true := by
  rw [actionIsValid_iff]
  rcases h with rfl | h | ⟨he, hp, b, hb, hpre⟩ | ⟨hm, _⟩
  · exact ⟨by decide, _, mem_supportedActions.2 (Or.inr rfl), Or.inl rfl⟩
  · exact ⟨(supported_shape a h).1, a, mem_supportedActions.2 (Or.inl h), Or.inl rfl⟩
  · exact ⟨hp, b, mem_supportedActions.2 (Or.inl hb), Or.inr ⟨he, hpre⟩⟩
  · cases hm

theorem lenient_of_valid {a : Bytes} (h : actionIsValid a = true) : ActionOK .lenient a := by
  obtain ⟨hp, b, hb, hcov⟩ := actionIsValid_iff.1 h
  rcases mem_supportedActions.1 hb with hb | rfl
  · have hb' : b ∈ namesOf .lenient := List.mem_append_left _ hb
    rcases hcov with rfl | ⟨he, hpre⟩
    · exact Or.inr (Or.inl hb')
    · exact Or.inr (Or.inr (Or.inl ⟨he, hp, b, hb', hpre⟩))
  · rcases (covers_all hp).1 hcov with h | h
    · exact Or.inl h
    · exact Or.inr (Or.inr (Or.inr ⟨rfl, h⟩))

theorem strict_ne_doubleStar {a : Bytes} (h : ActionOK .strict a) : a ≠ doubleStar := by
  rintro rfl
  rcases h with h | h | ⟨_, _, b, hb, hpre⟩ | ⟨hm, _⟩
  · exact absurd h (by decide)
  · exact (supported_shape _ h).2.1 (by decide)
  · exact (supported_shape b hb).2.2 hpre
  · cases hm

theorem actionKind_cases {a : Bytes} (hne : a ≠ allActions) (hnil : a ≠ []) :
    (actionKind a = .object ∧ ∃ b ∈ objectActions, Covers a b) ∨
    (actionKind a = .bucket ∧ ¬ ∃ b ∈ objectActions, Covers a b) := by
  unfold actionKind
  rw [if_neg hne]
  cases hl : a.getLast? with
  | none => exact absurd (List.getLast?_eq_none_iff.1 hl) hnil
  | some c =>
    have hc : c = 42 ↔ EndsInStar a := by unfold EndsInStar; rw [hl, Option.some.injEq]
    rw [← lookup_iff objectActions a (c = 42) hc]
    dsimp only
    have key : ∀ t : Bool, ((if t = true then Kind.object else .bucket) = .object ∧ t = true) ∨
        ((if t = true then Kind.object else .bucket) = .bucket ∧ ¬ t = true) := by decide
    by_cases h42 : c = 42
    · rw [if_pos h42, if_pos h42]; exact key _
    · rw [if_neg h42, if_neg h42]; exact key _

theorem actionKind_all : actionKind allActions = .all := by decide

theorem kind_of_valid {a : Bytes} (hv : actionIsValid a = true) (hne : a ≠ allActions) :
    (actionKind a = .object ∧ (ObjHit a ∨ a = doubleStar)) ∨
    (actionKind a = .bucket ∧ BktHit .strict a) := by
  obtain ⟨hp, b, hb, hcov⟩ := actionIsValid_iff.1 hv
  have hnil : a ≠ [] := by rintro rfl; rw [actionIsValid_nil] at hv; cases hv
  rcases actionKind_cases hne hnil with ⟨hk, c, hc, hcc⟩ | ⟨hk, hno⟩
  · refine Or.inl ⟨hk, ?_⟩
    rcases mem_objectActions.1 hc with hc | rfl
    · exact Or.inl ⟨c, hc, hcc⟩
    · exact Or.inr (((covers_all hp).1 hcc).resolve_left hne)
  · refine Or.inr ⟨hk, ?_⟩
    rcases mem_supportedActions.1 hb with hb | rfl
    · have : b ∉ objectNames := fun h => hno ⟨b, mem_objectActions.2 (Or.inl h), hcov⟩
      exact ⟨b, mem_bucketNames.2 ⟨hb, this⟩, hcov⟩
    · exact absurd ⟨_, mem_objectActions.2 (Or.inr rfl), hcov⟩ hno

theorem actionKind_ne_all (a : Bytes) (hv : actionIsValid a = true) (hne : a ≠ allActions) :
    actionKind a ≠ .all := by
  rcases kind_of_valid hv hne with ⟨h, _⟩ | ⟨h, _⟩ <;> rw [h] <;> exact nofun

theorem actionKind_ne_panic (a : Bytes) (hv : actionIsValid a = true) : actionKind a ≠ .panic := by
  by_cases hall : a = allActions
  · rw [hall, actionKind_all]; exact nofun
  · rcases kind_of_valid hv hall with ⟨h, _⟩ | ⟨h, _⟩ <;> rw [h] <;> exact nofun

/-- what the theorems assume about a bucket name; every name `IsValidBucketName` accepts has these
properties, which is not proved here -/
def Sane (bucket : Bytes) : Prop := bucket ≠ [] ∧ (47 : UInt8) ∉ bucket ∧ (42 : UInt8) ∉ bucket

instance (b : Bytes) : Decidable (Sane b) := by unfold Sane; infer_instance

theorem isValidResource_some {r p : Bytes} :
    isValidResource r = some p ↔ (r = arnPrefix ++ p ∧ p ≠ [] ∧ ¬ slashLit <+: p) := by
  unfold isValidResource
  by_cases hp : arnPrefix <+: r
  · obtain ⟨t, rfl⟩ := hp
    rw [hasPrefix_iff.2 (List.prefix_append _ _), trimPrefix_append,
      List.append_cancel_left_eq, ← hasPrefix_iff, Bool.not_true, if_neg Bool.false_ne_true]
    dsimp only
    constructor
    · intro h
      split at h
      · cases h
      · split at h
        · cases h
        · cases h; exact ⟨rfl, ‹_›, ‹_›⟩
    · rintro ⟨rfl, h1, h2⟩; rw [if_neg h1, if_neg h2]
  · rw [Bool.eq_false_iff.2 (mt hasPrefix_iff.1 hp), Bool.not_false, if_pos rfl]
    exact ⟨fun h => (nomatch h), fun ⟨e, _⟩ => absurd ⟨p, e.symm⟩ hp⟩

theorem not_slash_prefix {bucket : Bytes} (k : Bytes) (hs : Sane bucket) :
    ¬ slashLit <+: bucket ++ k := by
  obtain ⟨hne, h47, _⟩ := hs
  cases bucket with
  | nil => exact absurd rfl hne
  | cons c cs =>
    unfold slashLit
    rw [List.cons_append, List.cons_prefix_cons]
    rintro ⟨e, _⟩
    apply h47; rw [e]; simp

theorem inBucket_pattern {bucket r : Bytes} (hs : Sane bucket) (h : InBucket bucket r) :
    (IsBucketRes bucket r ∧ isValidResource r = some bucket) ∨
    (IsObjectRes bucket r ∧ ∃ k, isValidResource r = some (bucket ++ 47 :: k)) := by
  rcases h with h | h
  · left
    refine ⟨h, ?_⟩
    rw [isValidResource_some]
    have := not_slash_prefix [] hs
    rw [List.append_nil] at this
    exact ⟨h, hs.1, this⟩
  · right
    refine ⟨h, ?_⟩
    obtain ⟨k, hk⟩ := h
    refine ⟨k, ?_⟩
    rw [isValidResource_some]
    refine ⟨by rw [← hk]; simp, by simp, not_slash_prefix _ hs⟩

theorem not_bucket_and_object {bucket r : Bytes} (hb : IsBucketRes bucket r) :
    ¬ IsObjectRes bucket r := by
  rintro ⟨k, hk⟩
  unfold IsBucketRes at hb
  rw [hb] at hk
  have := congrArg List.length hk
  simp at this

/-- the two tests are those of `ContainsObjectPattern` and `ContainsBucketPattern` -/
theorem pattern_kind {bucket r : Bytes} (hs : Sane bucket) (h : InBucket bucket r) :
    ∃ p, isValidResource r = some p ∧
      ((p = starLit || containsByte p 47) = true ↔ IsObjectRes bucket r) ∧
      ((p = starLit || !containsByte p 47) = true ↔ IsBucketRes bucket r) := by
  rcases inBucket_pattern hs h with ⟨hb, hv⟩ | ⟨ho, k, hv⟩
  · have h1 : bucket ≠ starLit := fun e => hs.2.2 (e ▸ List.mem_singleton.2 rfl)
    have h2 : containsByte bucket 47 = false := by
      rw [← Bool.not_eq_true, containsByte_iff]; exact hs.2.1
    refine ⟨bucket, hv, ?_, ?_⟩
    · rw [h2, decide_eq_false h1]
      exact ⟨fun h => (nomatch h), fun ho => absurd ho (not_bucket_and_object hb)⟩
    · rw [h2, Bool.not_false, Bool.or_true]
      exact ⟨fun _ => hb, fun _ => rfl⟩
  · have h1 : bucket ++ 47 :: k ≠ starLit := by
      intro e
      have := congrArg List.length e
      simp [starLit] at this
      exact hs.1 (List.eq_nil_of_length_eq_zero (by omega))
    have h2 : containsByte (bucket ++ 47 :: k) 47 = true :=
      containsByte_iff.2 (List.mem_append_right _ List.mem_cons_self)
    refine ⟨_, hv, ?_, ?_⟩
    · rw [h2, Bool.or_true]
      exact ⟨fun _ => ho, fun _ => rfl⟩
    · rw [h2, decide_eq_false h1]
      exact ⟨fun h => (nomatch h), fun hb => absurd ho (not_bucket_and_object hb)⟩

def Stored (rs pats : List Bytes) : Prop :=
  ∀ p, p ∈ pats ↔ ∃ r ∈ rs, isValidResource r = some p

theorem any_stored {q : Bytes → Bool} {Q : Bytes → Prop} {rs pats : List Bytes}
    (hst : Stored rs pats)
    (hq : ∀ r ∈ rs, ∃ p, isValidResource r = some p ∧ (q p = true ↔ Q r)) :
    pats.any q = true ↔ ∃ r ∈ rs, Q r := by
  rw [List.any_eq_true]
  constructor
  · rintro ⟨p, hp, hqp⟩
    obtain ⟨r, hr, hv⟩ := (hst p).1 hp
    obtain ⟨p', hv', h⟩ := hq r hr
    rw [hv, Option.some.injEq] at hv'
    exact ⟨r, hr, h.1 (hv' ▸ hqp)⟩
  · rintro ⟨r, hr, hQ⟩
    obtain ⟨p, hv, h⟩ := hq r hr
    exact ⟨p, (hst p).2 ⟨r, hr, hv⟩, h.2 hQ⟩

theorem containsObjectPattern_iff {bucket : Bytes} {rs pats : List Bytes} (hs : Sane bucket)
    (hin : ∀ r ∈ rs, InBucket bucket r) (hst : Stored rs pats) :
    containsObjectPattern pats = true ↔ ∃ r ∈ rs, IsObjectRes bucket r :=
  any_stored hst fun r hr => let ⟨p, hv, h, _⟩ := pattern_kind hs (hin r hr); ⟨p, hv, h⟩

theorem containsBucketPattern_iff {bucket : Bytes} {rs pats : List Bytes} (hs : Sane bucket)
    (hin : ∀ r ∈ rs, InBucket bucket r) (hst : Stored rs pats) :
    containsBucketPattern pats = true ↔ ∃ r ∈ rs, IsBucketRes bucket r :=
  any_stored hst fun r hr => let ⟨p, hv, _, h⟩ := pattern_kind hs (hin r hr); ⟨p, hv, h⟩

section Except
variable {α β ε : Type}

theorem bind_ok (x : Except ε α) (f : α → Except ε β) (b : β) :
    (x >>= f) = .ok b ↔ ∃ a, x = .ok a ∧ f a = .ok b := by
  cases x with
  | error e => exact ⟨fun h => (nomatch h), fun ⟨_, h, _⟩ => (nomatch h)⟩
  | ok a => exact ⟨fun h => ⟨a, rfl, h⟩, fun ⟨_, h, hf⟩ => by cases h; exact hf⟩

theorem bind_ok_unit (x y : Except ε Unit) :
    (x >>= fun _ => y) = .ok () ↔ x = .ok () ∧ y = .ok () := by
  rw [bind_ok]; exact ⟨fun ⟨_, h, hy⟩ => ⟨h, hy⟩, fun ⟨h, hy⟩ => ⟨(), h, hy⟩⟩

theorem ite_error_ok (c : Prop) [Decidable c] (e : ε) (x : Except ε α) (a : α) :
    (if c then .error e else x) = .ok a ↔ ¬ c ∧ x = .ok a := by
  by_cases h : c
  · rw [if_pos h]; exact ⟨fun h => (nomatch h), fun h' => absurd h h'.1⟩
  · rw [if_neg h]; exact ⟨fun h' => ⟨h, h'⟩, fun h' => h'.2⟩

theorem ite_ok_error (c : Prop) [Decidable c] (e : ε) (a : α) :
    (if c then .ok a else (.error e : Except ε α)) = .ok a ↔ c := by
  by_cases h : c
  · rw [if_pos h]; exact iff_of_true rfl h
  · rw [if_neg h]; exact iff_of_false (fun h => nomatch h) h

variable {f : α → Except ε Unit}

theorem forM_cons (a : α) (l : List α) : (a :: l).forM f = (f a >>= fun _ => l.forM f) := rfl

theorem forM_ok_iff (l : List α) : l.forM f = .ok () ↔ ∀ a ∈ l, f a = .ok () := by
  induction l with
  | nil => exact ⟨fun _ _ h => (nomatch h), fun _ => rfl⟩
  | cons a l ih => rw [forM_cons, bind_ok_unit, List.forall_mem_cons, ih]

theorem forM_cases (l : List α) (e₀ : ε) (he : ∀ a ∈ l, f a = .ok () ∨ f a = .error e₀) :
    l.forM f = .ok () ∨ l.forM f = .error e₀ := by
  induction l with
  | nil => exact Or.inl rfl
  | cons a l ih =>
    rw [forM_cons]
    rcases he a List.mem_cons_self with h | h <;> rw [h]
    · exact ih fun x hx => he x (List.mem_cons_of_mem _ hx)
    · exact Or.inr rfl

theorem forM_eq_of_mem_iff (l₁ l₂ : List α) (e₀ : ε) (hmem : ∀ a, a ∈ l₁ ↔ a ∈ l₂)
    (he : ∀ a ∈ l₁, f a = .ok () ∨ f a = .error e₀) : l₁.forM f = l₂.forM f := by
  have hiff : l₁.forM f = .ok () ↔ l₂.forM f = .ok () := by
    rw [forM_ok_iff, forM_ok_iff]
    exact ⟨fun h a ha => h a ((hmem a).2 ha), fun h a ha => h a ((hmem a).1 ha)⟩
  by_cases h : l₁.forM f = .ok ()
  · rw [h, hiff.1 h]
  · rw [(forM_cases l₁ e₀ he).resolve_left h,
      (forM_cases l₂ e₀ fun a ha => he a ((hmem a).2 ha)).resolve_left (mt hiff.2 h)]

end Except

/-! One iteration of the action/resource-kind loop is the loop over a singleton,
`kindLoop o b [a]`. -/

theorem kindLoop_eq_forM (o b : Bool) (l : List Bytes) :
    kindLoop o b l = l.forM fun a => kindLoop o b [a] := by
  induction l with
  | nil => rfl
  | cons a l ih =>
    rw [forM_cons, ← ih, kindLoop, kindLoop, kindLoop]
    cases actionKind a with
    | all => rfl
    | panic => rfl
    | object => cases o <;> rfl
    | bucket => cases b <;> rfl

theorem step_ok_iff (o b : Bool) (a : Bytes) :
    kindLoop o b [a] = .ok () ↔
      match actionKind a with
      | .all => True | .panic => False | .object => o = true | .bucket => b = true := by
  rw [kindLoop, kindLoop]
  cases actionKind a with
  | all => exact iff_of_true rfl trivial
  | panic => exact ⟨fun h => (nomatch h), False.elim⟩
  | object => cases o <;> simp
  | bucket => cases b <;> simp

theorem step_cases (o b : Bool) {a : Bytes} (h : actionKind a ≠ .panic) :
    kindLoop o b [a] = .ok () ∨ kindLoop o b [a] = .error .resourceMismatch := by
  rw [kindLoop, kindLoop]
  cases hk : actionKind a with
  | all => exact Or.inl rfl
  | panic => exact absurd hk h
  | object => cases o <;> simp
  | bucket => cases b <;> simp

def StepOK (pats : List Bytes) (a : Bytes) : Prop :=
  kindLoop (containsObjectPattern pats) (containsBucketPattern pats) [a] = .ok ()

/-- since the loop `continue`s at `s3:*`, it succeeds exactly when every action passes -/
theorem kindLoop_ok_iff (pats : List Bytes) (l : List Bytes) :
    kindLoop (containsObjectPattern pats) (containsBucketPattern pats) l = .ok () ↔
      ∀ a ∈ l, StepOK pats a := by
  rw [kindLoop_eq_forM, forM_ok_iff]; rfl

theorem step_of_strict {bucket : Bytes} {rs pats : List Bytes} {a : Bytes} (hs : Sane bucket)
    (hin : ∀ r ∈ rs, InBucket bucket r) (hst : Stored rs pats)
    (ha : ActionOK .strict a) (hk : KindOK .strict bucket rs a) : StepOK pats a := by
  unfold StepOK
  rw [step_ok_iff]
  by_cases hall : a = allActions
  · rw [hall, actionKind_all]; trivial
  obtain ⟨hobj, hbkt⟩ := hk.resolve_left hall
  rcases kind_of_valid (valid_of_strict ha) hall with ⟨hkind, ho⟩ | ⟨hkind, hb⟩ <;> rw [hkind]
  · exact (containsObjectPattern_iff hs hin hst).2
      (hobj (ho.resolve_right (strict_ne_doubleStar ha)))
  · exact (containsBucketPattern_iff hs hin hst).2 (hbkt hb)

theorem lenient_of_step {bucket : Bytes} {rs pats : List Bytes} {a : Bytes} (hs : Sane bucket)
    (hin : ∀ r ∈ rs, InBucket bucket r) (hst : Stored rs pats)
    (hv : actionIsValid a = true) (hk : StepOK pats a) : KindOK .lenient bucket rs a := by
  unfold StepOK at hk
  rw [step_ok_iff] at hk
  by_cases hall : a = allActions
  · exact Or.inl hall
  right
  rcases kind_of_valid hv hall with ⟨hkind, ho⟩ | ⟨hkind, ⟨c, hc, hcov⟩⟩ <;> rw [hkind] at hk
  · rcases ho with ho | ho
    · exact Or.inl ⟨ho, (containsObjectPattern_iff hs hin hst).1 hk⟩
    · exact Or.inr (Or.inr ho)
  · exact Or.inr (Or.inl ⟨⟨c, List.mem_append_left _ hc, hcov⟩,
      (containsBucketPattern_iff hs hin hst).1 hk⟩)

theorem nodup_insert {α : Type} [BEq α] [LawfulBEq α] (k : α) (ks : List α) (h : ks.Nodup) :
    (ks.insert k).Nodup := by
  by_cases hm : k ∈ ks
  · rw [List.insert_of_mem hm]; exact h
  · rw [List.insert_of_not_mem hm]; exact List.nodup_cons.2 ⟨hm, h⟩

/-- `addAll` is `List.insert` of each result into the map built from the rest. -/
theorem addAll_ok {f : Bytes → Except VErr Bytes} {l ks : List Bytes} (h : addAll f l = .ok ks) :
    (∀ s ∈ l, ∃ k, f s = .ok k) ∧ (∀ k, k ∈ ks ↔ ∃ s ∈ l, f s = .ok k) ∧ ks.Nodup := by
  induction l generalizing ks with
  | nil => cases h; exact ⟨fun _ h => (nomatch h), fun k => by simp, List.nodup_nil⟩
  | cons s rest ih =>
    rw [addAll] at h
    cases hf : f s with
    | error e => rw [hf] at h; cases h
    | ok k =>
      cases hr : addAll f rest with
      | error e => rw [hf, hr] at h; cases h
      | ok ks' =>
        rw [hf, hr] at h
        cases h
        obtain ⟨h1, h2, h3⟩ := ih hr
        refine ⟨List.forall_mem_cons.2 ⟨⟨k, hf⟩, h1⟩, fun k0 => ?_, nodup_insert k ks' h3⟩
        show k0 ∈ ks'.insert k ↔ _
        rw [List.mem_insert_iff, h2, eq_comm]
        simp only [List.mem_cons, exists_eq_or_imp, hf, Except.ok.injEq]

theorem addAll_total (f : Bytes → Except VErr Bytes) {l : List Bytes}
    (h : ∀ s ∈ l, ∃ k, f s = .ok k) : ∃ ks, addAll f l = .ok ks := by
  induction l with
  | nil => exact ⟨[], rfl⟩
  | cons s rest ih =>
    obtain ⟨k, hk⟩ := h s List.mem_cons_self
    obtain ⟨ks, hks⟩ := ih fun x hx => h x (List.mem_cons_of_mem _ hx)
    rw [addAll, hk, hks]
    exact ⟨_, rfl⟩

theorem addAction_ok_iff {a k : Bytes} :
    addAction a = .ok k ↔ (actionIsValid a = true ∧ a = k) := by
  unfold addAction
  cases actionIsValid a <;> simp

theorem addResource_ok_iff {x p : Bytes} :
    addResource x = .ok p ↔ isValidResource x = some p := by
  unfold addResource
  cases isValidResource x <;> simp

theorem addAll_principals {l ks : List Bytes} (h : addAll (fun s => .ok s) l = .ok ks) :
    (∀ k, k ∈ ks ↔ k ∈ l) ∧ ks.Nodup := by
  obtain ⟨_, hm, hn⟩ := addAll_ok h
  refine ⟨fun k => ?_, hn⟩
  rw [hm]; simp only [Except.ok.injEq, exists_eq_right]

theorem addAll_actions {l ks : List Bytes} (h : addAll addAction l = .ok ks) :
    (∀ k, k ∈ ks ↔ k ∈ l) ∧ ∀ a ∈ l, actionIsValid a = true := by
  obtain ⟨ha, hm, _⟩ := addAll_ok h
  simp only [addAction_ok_iff] at ha hm
  have hv : ∀ a ∈ l, actionIsValid a = true := fun a h => (ha a h).elim fun _ h => h.1
  exact ⟨fun k => (hm k).trans
    ⟨fun ⟨_, hs, _, e⟩ => e ▸ hs, fun hk => ⟨k, hk, hv k hk, rfl⟩⟩, hv⟩

theorem addAll_resources {l ks : List Bytes} (h : addAll addResource l = .ok ks) :
    Stored l ks ∧ ∀ r ∈ l, ∃ p, isValidResource r = some p := by
  obtain ⟨ha, hm, _⟩ := addAll_ok h
  simp only [addResource_ok_iff] at ha hm
  exact ⟨hm, ha⟩

theorem members_ne_nil {fld : Field} {l : List Bytes} (h : members fld = some l) : l ≠ [] := by
  rintro rfl
  cases fld with
  | arr l' => cases l' <;> cases h
  | _ => cases h

theorem decodeField_ok_iff {empty : VErr} {add : Bytes → Except VErr Bytes} {fld : Field}
    {ks : List Bytes} :
    decodeField empty add fld = .ok ks ↔
      (fld = .missing ∧ ks = []) ∨
      (fld ≠ .str [] ∧ ∃ l, members fld = some l ∧ addAll add l = .ok ks) := by
  cases fld with
  | missing => simp [decodeField, members, eq_comm]
  | bad => simp [decodeField, members]
  | str s => by_cases hs : s = [] <;> simp [decodeField, members, hs]
  | arr l => cases l <;> simp [decodeField, members]

theorem nodup_length_one_iff {α : Type} {c : α} {ks : List α} (hnd : ks.Nodup) (hc : c ∈ ks) :
    ks.length = 1 ↔ ∀ x ∈ ks, x = c := by
  match ks, hnd, hc with
  | [a], _, hc =>
    exact iff_of_true rfl fun x hx => (List.mem_singleton.1 hx).trans (List.mem_singleton.1 hc).symm
  | a :: b :: _, hnd, _ =>
    refine iff_of_false (fun h => nomatch h) fun h => (List.nodup_cons.1 hnd).1 ?_
    rw [h a List.mem_cons_self, ← h b (List.mem_cons_of_mem _ List.mem_cons_self)]
    exact List.mem_cons_self

theorem principalsOK_congr (acct : Bytes → Bool) {ks l : List Bytes} (hmem : ∀ k, k ∈ ks ↔ k ∈ l) :
    PrincipalsOK acct ks ↔ PrincipalsOK acct l := by
  unfold PrincipalsOK; simp only [hmem]

theorem principals_ok_iff (acct : Bytes → Bool) {ks : List Bytes} (hnd : ks.Nodup) (hne : ks ≠ []) :
    principalsValidate acct ks = .ok () ↔ PrincipalsOK acct ks := by
  unfold principalsValidate PrincipalsOK
  by_cases hc : starLit ∈ ks
  · -- `*` is there: it must be alone; a map has no duplicates, so that is `len == 1`
    rw [if_pos (List.contains_iff_mem.2 hc), ite_ok_error, nodup_length_one_iff hnd hc]
    exact ⟨Or.inl, fun h => h.elim id fun h => absurd rfl (h _ hc).1⟩
  · -- no `*`: nothing is omitted from the slice, and every principal must be an account
    have hs : ∀ x ∈ ks, x ≠ starLit := fun x hx e => hc (e ▸ hx)
    have hts : toSlice ks = ks := List.filter_eq_self.2 fun x hx => decide_eq_true (hs x hx)
    rw [if_neg (fun h => hc (List.contains_iff_mem.1 h)), ite_error_ok, Nat.not_lt, Nat.le_zero,
      List.length_eq_zero_iff, hts, List.filter_eq_nil_iff]
    simp only [Bool.not_eq_true', Bool.not_eq_false]
    refine ⟨fun h => Or.inr fun x hx => ⟨hs x hx, h.1 x hx⟩,
      fun h => ⟨h.elim (fun h => ?_) fun h x hx => (h x hx).2, trivial⟩⟩
    obtain ⟨x, hx⟩ := List.exists_mem_of_ne_nil ks hne
    exact absurd (h x hx) (hs x hx)

end Vgw.Lemmas.Validate
