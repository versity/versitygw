/-
  C18 — the decidable table criteria of the proxy model (`preservedReq`, `copiedResp`) are sound
  and exact.
-/
import Vgw.Model.Proxy
import Vgw.Lemmas.ListFind
namespace Vgw.Lemmas.Proxy
open Vgw Vgw.Gen.ProxyFacts Vgw.Model.Proxy

theorem wire_idem (v : Val) : wire (wire v) = wire v := by
  unfold wire
  by_cases h : v = some ""
  · rw [if_pos h]; rfl
  · rw [if_neg h, if_neg h]

theorem wire_normalise (m : Method) (f : String) (v : Val) (h1 : f ∉ m.cleared) (h2 : f ∉ m.normInt) :
    wire (normalise m f v) = wire v := by
  unfold normalise
  rw [if_neg h1]
  split
  · rename_i h
    rw [h.2]; simp [wire]
  · rw [if_neg (fun h => h2 h.1)]

/-- for every request, and whatever the un-inspected computations (`derive`) do -/
theorem preservedReq_sound (m : Method) (f sdk : String) (h : preservedReq m f sdk = true) :
    ∃ c, primaryCall m = some c ∧
      ∀ (derive : String → Fields → Val) (r : Fields), wire (sdkInput m c derive r sdk) = wire (r f) := by
  unfold preservedReq at h
  split at h
  · nomatch h
  rename_i c hc
  refine ⟨c, hc, fun derive r => ?_⟩
  simp only [Bool.and_eq_true, Bool.not_eq_true'] at h
  obtain ⟨⟨⟨hcl, hni⟩, hcw⟩, hrest⟩ := h
  suffices hs : sdkInput m c derive r sdk = normalise m f (r f) by
    rw [hs]
    exact wire_normalise m f (r f) (fun hm => Bool.false_ne_true (hcl ▸ List.contains_iff_mem.mpr hm))
      (fun hm => Bool.false_ne_true (hni ▸ List.contains_iff_mem.mpr hm))
  unfold sdkInput
  by_cases hp : c.passthrough = true
  · rw [if_pos hp] at hrest ⊢
    rw [← beq_iff_eq.mp hrest, hcw, if_neg Bool.false_ne_true]
  · rw [if_neg hp] at hrest ⊢
    cases hfind : c.fields.find? (fun fld => fld.sdk == sdk) with
    | none => rw [hfind] at hrest; nomatch hrest
    | some fld =>
      rw [hfind] at hrest
      simp only [Bool.and_eq_true, beq_iff_eq] at hrest
      simp only [hrest.1, hrest.2, hcw, Bool.false_eq_true, if_false]

theorem copiedResp_sound (m : Method) (sdk res : String) (h : copiedResp m sdk res = true)
    (derive : String → Fields → Val) (o : Fields) :
    gwResult m derive o res = o sdk := by
  unfold copiedResp at h
  unfold gwResult
  by_cases hp : m.outPassthrough = true
  · rw [if_pos hp] at h ⊢
    rw [beq_iff_eq.mp h]
  · rw [if_neg hp] at h ⊢
    cases hfind : m.outFields.find? (fun fld => fld.res == res) with
    | none => rw [hfind] at h; nomatch h
    | some fld =>
      rw [hfind] at h
      simp only [Bool.and_eq_true, beq_iff_eq] at h
      simp only [h.1.1, h.1.2, h.2]

theorem normalise_none (m : Method) (f : String) : normalise m f none = none := by
  unfold normalise; split
  · rfl
  · split
    · rfl
    · split <;> rfl

/-- the witness request: the field under test carries "0" if it is subject to the `0 → absent`
normalisation, else "x"; every other field is absent -/
def witnessReq (m : Method) (f : String) : Fields :=
  fun g => if g = f then (if m.normInt.contains f then some "0" else some "x") else none

theorem wire_witness_ne_none (m : Method) (f : String) : wire (witnessReq m f f) ≠ none := by
  unfold witnessReq wire
  rw [if_pos rfl]
  split <;> simp

/-- every other field of the witness request is absent, and the field under test, if it is not
cleared, carries the "0" that is normalised away -/
theorem normalise_witness (m : Method) (f src : String) (h : src = f → f ∉ m.cleared → f ∈ m.normInt) :
    normalise m src (witnessReq m f src) = none := by
  by_cases e : src = f
  · subst e
    unfold normalise
    by_cases hc : src ∈ m.cleared
    · rw [if_pos hc]
    · have hn := h rfl hc
      have hv : witnessReq m src src = some "0" := by
        unfold witnessReq; rw [if_pos rfl, if_pos (List.contains_iff_mem.mpr hn)]
      rw [if_neg hc, hv, if_neg (fun h => absurd h.2 (by decide)), if_pos ⟨hn, rfl⟩]
  · rw [witnessReq, if_neg e]
    exact normalise_none m src

/-- The criterion is exact: a field it rejects is lost for the witness request (the un-inspected
computations returning nothing). -/
theorem preservedReq_complete (m : Method) (c : Call) (f sdk : String) (hc : primaryCall m = some c)
    (h : preservedReq m f sdk = false) :
    wire (sdkInput m c (fun _ _ => none) (witnessReq m f) sdk) ≠ wire (witnessReq m f f) := by
  suffices hs : sdkInput m c (fun _ _ => none) (witnessReq m f) sdk = none by
    rw [hs]; exact (wire_witness_ne_none m f).symm
  -- whichever request field feeds `sdk`, the witness request loses it
  have lost : ∀ src, (src = f → f ∉ m.cleared → f ∉ m.normInt → f ∈ m.condWrites) →
      (if m.condWrites.contains src = true then none else normalise m src (witnessReq m f src)) = none := by
    intro src hsrc
    split
    · rfl
    · rename_i hcw
      exact normalise_witness m f src fun e hc =>
        Decidable.by_contra fun hn => hcw (e ▸ List.contains_iff_mem.mpr (hsrc e hc hn))
  unfold preservedReq at h
  rw [hc] at h
  simp only at h
  unfold sdkInput
  by_cases hp : c.passthrough = true
  · rw [if_pos hp] at h ⊢
    exact lost sdk (by rintro rfl; simpa using h)
  · rw [if_neg hp] at h ⊢
    cases hfind : c.fields.find? (fun fld => fld.sdk == sdk) with
    | none => rfl
    | some fld =>
      rw [hfind] at h
      dsimp only
      split
      · rename_i src hd hr
        exact lost src (by rintro rfl; simpa [hd, hr] using h)
      · rfl

def witnessResp (sdk : String) : Fields := fun g => if g = sdk then some "x" else none

theorem copiedResp_complete (m : Method) (sdk res : String) (h : copiedResp m sdk res = false) :
    gwResult m (fun _ _ => none) (witnessResp sdk) res ≠ witnessResp sdk sdk := by
  suffices hs : gwResult m (fun _ _ => none) (witnessResp sdk) res = none by
    rw [hs, witnessResp, if_pos rfl]; exact fun h => nomatch h
  unfold copiedResp at h
  unfold gwResult
  by_cases hp : m.outPassthrough = true
  · rw [if_pos hp] at h ⊢
    exact if_neg fun e => by simp [e] at h
  · rw [if_neg hp] at h ⊢
    cases hfind : m.outFields.find? (fun fld => fld.res == res) with
    | none => rfl
    | some fld =>
      rw [hfind] at h
      dsimp only
      split
      · rename_i src hd ho hq
        exact if_neg fun e => by simp [hd, ho, hq, e] at h
      · rfl

/-! If the keys of the elements of `t` that fail `ok` are exactly `bad`, every element whose key is outside
`bad` is `ok`. -/

section
variable {α β : Type} {t : List α} {ok : α → Bool} {key : α → β} {bad : List β}

theorem ok_of_not_rejected (h : (t.filter (fun e => !ok e)).map key = bad) {e : α} (he : e ∈ t)
    (hk : key e ∉ bad) : ok e = true := by
  cases hok : ok e with
  | true => rfl
  | false => exact absurd (h ▸ List.mem_map_of_mem (List.mem_filter.mpr ⟨he, by rw [hok]; rfl⟩)) hk

theorem certified_of_rejected [BEq β] [LawfulBEq β] (h : (t.filter (fun e => !ok e)).map key = bad) :
    t.all (fun e => bad.contains (key e) || ok e) = true := by
  rw [List.all_eq_true]
  intro e he
  by_cases hk : key e ∈ bad
  · rw [List.contains_iff_mem.mpr hk, Bool.true_or]
  · rw [ok_of_not_rejected h he hk, Bool.or_true]

end

theorem method_names_nodup : (methods.map (·.name)).Nodup := by decide +kernel

end Vgw.Lemmas.Proxy
