/-
  C14: ValidatePolicyDocument does not depend on the order in which Go iterates the action maps
  (since the fix ade9d47 the action/resource-kind loop `continue`s at `s3:*` instead of `break`ing).
-/
import Vgw.Lemmas.ValidateDoc
namespace Vgw.Lemmas.Validate
open Vgw Vgw.Go.Strings Vgw.Model.Policy Vgw.Spec.Policy Vgw.Lemmas.Policy

theorem kindLoop_order (o b : Bool) (l1 l2 : List Bytes) (hmem : ∀ a, a ∈ l1 ↔ a ∈ l2)
    (hnp : ∀ a ∈ l1, actionKind a ≠ .panic) : kindLoop o b l1 = kindLoop o b l2 := by
  rw [kindLoop_eq_forM, kindLoop_eq_forM]
  exact forM_eq_of_mem_iff l1 l2 .resourceMismatch hmem fun a ha => step_cases o b (hnp a ha)

theorem decodeStmt_actions_valid {r : RawStmt} {st : Stmt} (h : decodeStmt r = .ok st) :
    ∀ a ∈ st.actions, actionIsValid a = true := by
  obtain ⟨_, _, hda, _⟩ := decodeStmt_ok_iff.1 h
  rcases decodeField_ok_iff.1 hda with ⟨_, he⟩ | ⟨_, l, _, hadd⟩
  · rw [he]; exact fun _ h => nomatch h
  · obtain ⟨hmem, hv⟩ := addAll_actions hadd
    exact fun a ha => hv a ((hmem a).1 ha)

theorem decodeDoc_actions_valid {doc : RawDoc} {pol : Policy} (h : decodeDoc doc = .ok pol) :
    ∀ st ∈ pol, ∀ a ∈ st.actions, actionIsValid a = true := by
  cases doc with
  | stmts l =>
    change decodeStmts l = .ok pol at h
    induction l generalizing pol with
    | nil => cases h; exact fun _ h => nomatch h
    | cons r rest ih =>
      obtain ⟨st, sts, h1, h2, rfl⟩ := decodeStmts_cons.1 h
      exact List.forall_mem_cons.2 ⟨decodeStmt_actions_valid h1, ih h2⟩
  | _ => cases h

theorem ordOK_length {ord : List Bytes → List Bytes} (hord : OrdOK ord) (l : List Bytes) :
    (ord l).length = 0 ↔ l.length = 0 := by
  rw [List.length_eq_zero_iff, List.length_eq_zero_iff, List.eq_nil_iff_forall_not_mem,
    List.eq_nil_iff_forall_not_mem]
  simp only [hord l]

theorem validateStmt_order (bucket : Bytes) (acct : Bytes → Bool) (st : Stmt)
    (f g : List Bytes → List Bytes) (hf : OrdOK f) (hg : OrdOK g)
    (hv : ∀ a ∈ st.actions, actionIsValid a = true) :
    validateStmt bucket acct { st with actions := f st.actions } =
      validateStmt bucket acct { st with actions := g st.actions } := by
  have hk := kindLoop_order (containsObjectPattern st.resources) (containsBucketPattern st.resources)
    (f st.actions) (g st.actions) (fun a => (hf _ a).trans (hg _ a).symm)
    (fun a ha => actionKind_ne_panic a (hv a ((hf _ a).1 ha)))
  unfold validateStmt
  dsimp only
  rw [hk]
  simp only [ordOK_length hf, ordOK_length hg]

theorem validatePolicy_order (bucket : Bytes) (acct : Bytes → Bool) (pol : Policy)
    (f g : List Bytes → List Bytes) (hf : OrdOK f) (hg : OrdOK g)
    (hv : ∀ st ∈ pol, ∀ a ∈ st.actions, actionIsValid a = true) :
    validatePolicy bucket acct (reorder f pol) = validatePolicy bucket acct (reorder g pol) := by
  induction pol with
  | nil => rfl
  | cons st rest ih =>
    obtain ⟨hst, hrest⟩ := List.forall_mem_cons.1 hv
    rw [reorder_cons, reorder_cons, validatePolicy, validatePolicy,
      validateStmt_order bucket acct st f g hf hg hst, ih hrest]

end Vgw.Lemmas.Validate
