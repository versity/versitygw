/-
  The gateway state as finite maps: buckets by name, objects by key, both association lists kept
  sorted; what a lookup finds after an insertion.  The list facts at the end mention no `Gw` definition.
-/
import Vgw.Model.Gw.Step
import Vgw.Lemmas.ListFind
namespace Vgw.Model.Gw
open Vgw
universe u v
variable {α : Type u} {κ : Type v} [BEq κ] [LawfulBEq κ] (key : α → κ)

@[simp] theorem vstatus_beq (a b : VStatus) : (a == b) = decide (a = b) := by
  cases a <;> cases b <;> rfl

@[simp] theorem vstatus_bne (a b : VStatus) : (a != b) = !decide (a = b) := by
  cases a <;> cases b <;> rfl

theorem beq_bytes_refl (a : Bytes) : (a == a) = true := by simp

/-- `ins` stands for `insertBucket`, `kvInsert`, `insertPart`: each has these two equations -/
theorem find?_sortedInsert (x : α) (lt : α → Prop) [DecidablePred lt]
    (ins : List α → List α) (h0 : ins [] = [x])
    (h1 : ∀ y ys, ins (y :: ys) = if key y == key x then x :: ys else if lt y then x :: y :: ys else y :: ins ys) :
    ∀ l, (ins l).find? (key · == key x) = some x ∧
      ∀ n, (key x == n) = false → (ins l).find? (key · == n) = l.find? (key · == n)
  | [] => by
    rw [h0]
    exact ⟨by rw [List.find?_cons, beq_self_eq_true], fun n hn => by rw [List.find?_cons, hn]⟩
  | y :: ys => by
    have ih := find?_sortedInsert x lt ins h0 h1 ys
    rw [h1]
    by_cases hy : (key y == key x) = true
    · rw [if_pos hy]
      refine ⟨by rw [List.find?_cons, beq_self_eq_true], fun n hn => ?_⟩
      rw [List.find?_cons, hn, List.find?_cons, eq_of_beq hy, hn]
    · rw [if_neg hy]
      by_cases hlt : lt y
      · rw [if_pos hlt]
        exact ⟨by rw [List.find?_cons, beq_self_eq_true], fun n hn => by rw [List.find?_cons, hn]⟩
      · rw [if_neg hlt]
        refine ⟨by rw [List.find?_cons, Bool.eq_false_iff.mpr hy]; exact ih.1, fun n hn => ?_⟩
        rw [List.find?_cons, List.find?_cons, ih.2 n hn]

theorem findBucket_name {s : State} {b : Bytes} {bk : Bucket} (h : findBucket s b = some bk) : bk.name = b :=
  (find?_key_some (key := Bucket.name) h).2

theorem findBucket_setBucket (s : State) (x : Bucket) (b : Bytes) (h : x.name = b) : findBucket (setBucket s x) b = some x :=
  h ▸ (find?_sortedInsert Bucket.name x (fun y => bytesLt x.name y.name = true) (insertBucket · x) rfl (fun _ _ => rfl) s.buckets).1

theorem findBucket_setBucket_of {s : State} {b : Bytes} {bk bk' : Bucket} (hb : findBucket s b = some bk)
    (hn : bk'.name = bk.name) : findBucket (setBucket s bk') b = some bk' :=
  findBucket_setBucket s bk' b (hn.trans (findBucket_name hb))

theorem findBucket_setBucket_ne (s : State) (b : Bucket) (n : Bytes) (h : (b.name == n) = false) :
    findBucket (setBucket s b) n = findBucket s n :=
  (find?_sortedInsert Bucket.name b (fun y => bytesLt b.name y.name = true) (insertBucket · b) rfl (fun _ _ => rfl) s.buckets).2 n h

theorem kvFind_kvInsert {α} (m : List (Bytes × α)) (k : Bytes) (v : α) : kvFind (kvInsert m k v) k = some v :=
  congrArg (Option.map Prod.snd)
    (find?_sortedInsert Prod.fst (k, v) (fun x => bytesLt k x.1 = true) (kvInsert · k v) rfl (fun _ _ => rfl) m).1

theorem versions_setVersions (bk : Bucket) (k : Bytes) (vs : List Ver) (h : vs ≠ []) :
    (bk.setVersions k vs).versions k = vs := by
  unfold Bucket.setVersions Bucket.versions
  have : vs.isEmpty = false := by cases vs <;> simp_all
  simp [this, kvFind_kvInsert]

theorem setVersions_name (bk : Bucket) (k : Bytes) (vs : List Ver) : (bk.setVersions k vs).name = bk.name := by
  unfold Bucket.setVersions; split <;> rfl

theorem setVersions_uploads (bk : Bucket) (k : Bytes) (vs : List Ver) : (bk.setVersions k vs).uploads = bk.uploads := by
  unfold Bucket.setVersions; split <;> rfl

theorem find?_filter_not {α} (p : α → Bool) (l : List α) : (l.filter fun x => !p x).find? p = none :=
  find?_filter_of_not l fun x h => by rw [h]; rfl

theorem mem_foldl_log {σ ι τ : Type} (f : σ → ι → σ) (log : σ → List τ) (R : ι → τ → Prop)
    (hf : ∀ acc i, ∃ t, R i t ∧ log (f acc i) = log acc ++ [t]) :
    ∀ (l : List ι) (acc : σ), ∀ x ∈ log (l.foldl f acc), x ∈ log acc ∨ ∃ i ∈ l, R i x
  | [], _, _, hx => Or.inl hx
  | i :: rest, acc, x, hx => by
    obtain ⟨t, ht, hc⟩ := hf acc i
    rcases mem_foldl_log f log R hf rest (f acc i) x hx with h | ⟨j, hj, hr⟩
    · rw [hc] at h
      rcases List.mem_append.mp h with h | h
      · exact Or.inl h
      · cases List.mem_singleton.mp h
        exact Or.inr ⟨i, List.mem_cons_self, ht⟩
    · exact Or.inr ⟨j, List.mem_cons_of_mem _ hj, hr⟩

theorem find_eq_head_dropWhile {α} (p : α → Bool) (l : List α) :
    l.find? p = (l.dropWhile (fun x => !p x)).head? := by
  induction l with
  | nil => rfl
  | cons a as ih =>
    simp only [List.find?_cons, List.dropWhile_cons]
    cases p a <;> simp [ih]

/-- the version the per-version lock operations address -/
def target (bk : Bucket) (k vid : Bytes) : Option Ver :=
  if vid.isEmpty then (bk.versions k).head? else findVer (bk.versions k) vid

end Vgw.Model.Gw
