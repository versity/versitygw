/-
  Assembly: from `Good` (the emissions are the specified entries) and ascending event paths to
  `finish (run …) = Spec.List.result …`; hence the walk of a forest or a node from any base refines
  the specification (`walkList_refines`, `walkNode_refines`).
-/
import Vgw.Lemmas.WalkRefine
namespace Vgw.Model.Walk
open Vgw Vgw.Spec.List

theorem cpsOf_map_toEntry (l : List Em) : cpsOf (l.map toEntry) = emCps l := by
  unfold cpsOf emCps
  rw [List.filterMap_map]
  congr 1
  funext e
  cases e <;> rfl

theorem objsOf_map_toEntry (g : GetObj) : ∀ l : List Em,
    (∀ em ∈ l, ∀ o mk, em = .obj o mk → g o.key = some (o.size, o.etag)) →
    objsOf g (l.map toEntry) = emObjs l
  | [], _ => rfl
  | .obj o mk :: l, h => by
    have ih := objsOf_map_toEntry g l (fun em hem => h em (by simp [hem]))
    have hg := h (.obj o mk) (by simp) o mk rfl
    simp only [objsOf, emObjs, List.map_cons, toEntry, List.filterMap_cons, hg, Option.map_some] at ih ⊢
    rw [ih]
  | .cp n :: l, h => by
    have ih := objsOf_map_toEntry g l (fun em hem => h em (by simp [hem]))
    simp only [objsOf, emObjs, List.map_cons, toEntry, List.filterMap_cons] at ih ⊢
    exact ih

theorem lastMk_eq_lastName (l : List Em) (h : ∀ em ∈ l, em.mk = em.name) : lastMk l = lastName (l.map toEntry) := by
  unfold lastMk lastName
  rw [List.getLast?_map]
  cases hl : l.getLast? with
  | none => rfl
  | some em =>
    have hm : em ∈ l := List.mem_of_getLast? hl
    simp [h em hm, Em.name]

theorem emCps_sublist_names : ∀ l : List Em, (emCps l).Sublist (l.map Em.name)
  | [] => by simp [emCps]
  | .obj o mk :: l => by
    have := emCps_sublist_names l
    simp only [emCps, List.filterMap_cons, List.map_cons] at this ⊢
    exact List.Sublist.cons _ this
  | .cp n :: l => by
    have := emCps_sublist_names l
    simp only [emCps, List.filterMap_cons, List.map_cons] at this ⊢
    exact List.Sublist.cons₂ _ this

theorem finish_of_good (c : Cfg) (N : Nat) (hN : 0 < N) (hmax : c.max = (N : Int))
    (vis : List Ev) (K evp : List Bytes)
    (hgood : Good c K (emsOf c vis) evp)
    (hsorted : evp.Pairwise (fun a b => blt a b = true))
    (hvsub : (vis.map Ev.epath).Sublist evp) :
    finish (run c (init c) vis) = Spec.List.result c.getObj K c.pfx c.delim c.marker N := by
  have hnames : ((emsOf c vis).map Em.name).Pairwise (fun a b => blt a b = true) :=
    List.Pairwise.sublist hgood.names hsorted
  have hcps : ∀ n, (emCps ((emsOf c vis).take n)).Pairwise (fun a b => blt a b = true) := fun n =>
    List.Pairwise.sublist ((emCps_sublist_names _).trans ((List.take_sublist n _).map _)) hnames
  -- freeze `pastMarker`, then the closed form of the fold
  have hcl : Closed (init c) (run c (init c) vis) (emsOf c vis) N := by
    rw [run_eq_runA c vis (init c) (List.Pairwise.sublist hvsub hsorted) (Or.inl rfl)]
    refine runA_closed c N hmax (vis.map (act0 c)) (init c) N rfl (by simp [init]) (by simp [init]; omega) ?_
    have := hcps (emsOf c vis).length
    rw [List.take_length] at this
    exact this.imp (fun {a b} hab => blt_ne a b hab)
  have hent := hgood.map_toEntry hnames
  have hmeta : ∀ em ∈ emsOf c vis, ∀ o mk, em = .obj o mk → c.getObj o.key = some (o.size, o.etag) :=
    fun em hem o mk he => (hgood.obj (he ▸ hem)).2
  have hmk : ∀ em ∈ emsOf c vis, em.mk = em.name := by
    intro em hem
    cases em with
    | cp n => rfl
    | obj o mk => exact (hgood.obj hem).1
  rw [result, list_of_pos _ _ _ _ _ hN, ← hent, ← List.map_take, List.length_map]
  unfold finish Page.toResult
  rw [hcl.objects, hcl.cps, hcl.truncated, hcl.newMarker, if_neg (Nat.ne_of_gt hN),
    objsOf_map_toEntry c.getObj _ (fun em hem => hmeta em (List.mem_of_mem_take hem)), cpsOf_map_toEntry,
    ← lastMk_eq_lastName _ (fun em hem => hmk em (List.mem_of_mem_take hem))]
  simp only [init, List.nil_append, sortDedup_of_sorted _ (hcps N), Result.mk.injEq, true_and]
  by_cases ht : N < (emsOf c vis).length
  · simp [ht, Nat.le_of_lt ht]
  · simp [ht]

theorem walkList_refines (c : Cfg) (h : Hyp c) (N : Nat) (hN : 0 < N) (hmax : c.max = (N : Int))
    (ts : List Tree) (b : Bytes) (hwf : wfList ts = true) (hoc : ocList ts = true)
    (hpop : populatedList c.getObj c.skip b ts = true) (hb : BaseOK c b)
    (hmc : ∀ k ∈ keysList c.getObj c.skip b ts, MC c k) :
    finish (walkList c b (init c) ts).1 =
      Spec.List.result c.getObj (keysList c.getObj c.skip b ts) c.pfx c.delim c.marker N := by
  rw [walkList_eq_run c ts b (init c) rfl]
  exact finish_of_good c N hN hmax _ _ _ (good_list c h ts b hwf hpop hb hmc)
    (eventsList_sorted ts b hwf hoc) (visList_epath_sublist c ts b)

theorem walkNode_refines (c : Cfg) (h : Hyp c) (N : Nat) (hN : 0 < N) (hmax : c.max = (N : Int))
    (t : Tree) (b : Bytes) (hwf : wfNode t = true) (hoc : ocNode t = true)
    (hpop : populatedNode c.getObj c.skip b t = true) (hb : BaseOK c b)
    (hmc : ∀ k ∈ keysNode c.getObj c.skip b t, MC c k) :
    finish (walkNode c b (init c) t).1 =
      Spec.List.result c.getObj (keysNode c.getObj c.skip b t) c.pfx c.delim c.marker N := by
  rw [walkNode_eq_run c t b (init c) rfl]
  exact finish_of_good c N hN hmax _ _ _ (good_node c h t b hwf hpop hb hmc)
    (eventsNode_sorted t b hwf hoc) (visNode_epath_sublist c t b)

end Vgw.Model.Walk
