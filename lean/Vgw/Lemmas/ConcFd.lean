/-
  Lemmas about Model.Conc: the `byFd` reader (open first, then everything through the
  descriptor) answers exactly `observe` of the inode it opened.
-/
import Vgw.Lemmas.ConcSolo
namespace Vgw.Model.Conc

/-- views are ghost: erase them. -/
def Local.nv (l : Local) : Local := { l with views := [] }

theorem readAct_nv (t : Option Inode) (l : Local) (a : Act) : (readAct t l a).nv = readAct t l.nv a :=
  (readAct_views_irrel t l a []).symm

def SoloOK (ino : Inode) (head : Bool) (l : Local) : Prop :=
  ∃ n, (soloRun ino n l.nv).prog = [] ∧ (soloRun ino n l.nv).acc = accOf ino head

theorem soloRun_nil (ino : Inode) (n : Nat) (l : Local) (h : l.prog = []) : soloRun ino n l = l := by
  induction n with
  | zero => rfl
  | succ n ih => simp only [soloRun, soloStep, h]; exact ih

def readKindHead (rq : Req) : Bool := rq.kind == .head

/-- a reader through the descriptor. `running`: what is left of its program, run against the opened
    inode alone (`SoloOK`), collects `observe` of that inode. -/
inductive FdState (c : Cfg) (fs : FS) (rq : Req) (l : Local) : Prop where
  | fresh (hprog : l.prog = program c rq) (hacc : l.acc = {}) (hres : l.result = none) (hfd : l.fd = none)
  | running (k : Nat) (ino : Inode) (hfd : l.fd = some k) (hino : fs.inodes[k]? = some ino) (hres : l.result = none)
      (hacts : ∀ a ∈ l.prog, a.isReadAct = true ∧ a ≠ .ropen) (hne : l.prog ≠ []) (hsolo : SoloOK ino (readKindHead rq) l)
  | answered (k : Nat) (ino : Inode) (hfd : l.fd = some k) (hino : fs.inodes[k]? = some ino) (hprog : l.prog = [])
      (hres : l.result = some (.read (observe ino (readKindHead rq))))
  | failed (hprog : l.prog = []) (hres : l.result = some .noSuchKey) (hfd : l.fd = none)

theorem program_byFd (c : Cfg) (rq : Req) (hr : rq.kind.isRead = true) (hm : c.rmode = .byFd) :
    program c rq = .ropen :: afterOpen (readKindHead rq) := by
  cases hk : rq.kind <;> simp [hk, Kind.isRead] at hr <;>
    simp [program, hk, hm, afterOpen, readTail, readKindHead]

theorem afterOpen_readActs (head : Bool) : ∀ a ∈ afterOpen head, a.isReadAct = true ∧ a ≠ .ropen := by
  intro a ha
  have h1 : (afterOpen head).all (fun a => a.isReadAct && a != .ropen) = true := by cases head <;> rfl
  have := List.all_eq_true.1 h1 a ha
  simp only [Bool.and_eq_true, bne_iff_ne, ne_eq] at this
  exact this

theorem FdState_mono {c : Cfg} {fs fs' : FS} {rq : Req} {l : Local} (h : FdState c fs rq l)
    (ext : List Inode) (he : fs'.inodes = fs.inodes ++ ext) : FdState c fs' rq l := by
  have up : ∀ (k : Nat) (ino : Inode), fs.inodes[k]? = some ino → fs'.inodes[k]? = some ino := by
    intro k ino hk
    rw [he, List.getElem?_append_left]; exact hk
    exact (List.getElem?_eq_some_iff.1 hk).1
  cases h with
  | fresh a b c d => exact .fresh a b c d
  | running k ino a b c d e f => exact .running k ino a (up k ino b) c d e f
  | answered k ino a b c d => exact .answered k ino a (up k ino b) c d
  | failed a b c => exact .failed a b c

theorem execAct_read_some (c : Cfg) (rq : Req) (fs : FS) (l : Local) (a : Act) (rest : List Act) (ino : Inode)
    (ht : (target c fs l).bind (fs.inodes[·]?) = some ino)
    (ha : a.isReadAct = true) (hne : a ≠ .ropen) (hp : l.prog = a :: rest) :
    (execAct c rq fs { l with prog := rest } a).1 = fs ∧
    (execAct c rq fs { l with prog := rest } a).2.nv = soloStep ino l.nv := by
  have ht' : ((target c fs { l with prog := rest, views := fs.key :: l.views }).bind (fs.inodes[·]?)) = some ino := ht
  rw [soloStep_cons ino l.nv a rest hp]
  cases a with
  | ropen => exact absurd rfl hne
  | statign => exact ⟨rfl, rfl⟩
  | rstat | listsize | listnames | getmeta _ | gethdr _ | getetag | gettags =>
    simp only [execAct, ht']; exact ⟨trivial, by rw [readAct_nv]; rfl⟩
  | _ => cases ha

theorem execAct_read_some_result (c : Cfg) (rq : Req) (fs : FS) (l : Local) (a : Act) (rest : List Act) (ino : Inode)
    (ht : (target c fs l).bind (fs.inodes[·]?) = some ino)
    (ha : a.isReadAct = true) (hne : a ≠ .ropen) (hp : l.prog = a :: rest) :
    (execAct c rq fs { l with prog := rest } a).2.result = l.result := by
  have := congrArg Local.result (execAct_read_some c rq fs l a rest ino ht ha hne hp).2
  rw [soloStep_cons _ _ _ _ (show l.nv.prog = a :: rest from hp)] at this
  rcases readAct_prog (some ino) { l.nv with prog := rest } a with ⟨h, _⟩ | ⟨h, _⟩
  · cases h
  · exact this.trans h

theorem SoloOK_step {ino : Inode} {head : Bool} {l l' : Local} {a : Act} {rest : List Act} (h : SoloOK ino head l) (hp : l.prog = a :: rest)
    (hl' : l'.nv = soloStep ino l.nv) : SoloOK ino head l' := by
  obtain ⟨n, h1, h2⟩ := h
  cases n with
  | zero => simp [soloRun, Local.nv, hp] at h1
  | succ n =>
    refine ⟨n, ?_, ?_⟩
    · rw [hl']; exact h1
    · rw [hl']; exact h2

theorem FdState_own {c : Cfg} {fs : FS} {rq : Req} {l : Local} {a : Act} {rest : List Act} (hm : c.rmode = .byFd)
    (hk : KeyLast fs) (hrd : rq.kind.isRead = true) (st : FdState c fs rq l) (hp : l.prog = a :: rest) :
    FdState c (after c rq fs l a rest).1 rq (after c rq fs l a rest).2 := by
  cases st with
  | failed a1 _ _ => rw [a1] at hp; cases hp
  | answered _ _ _ _ a1 _ => rw [a1] at hp; cases hp
  | fresh a1 a2 a3 a4 =>
    -- the first step is the open
    rw [a1, program_byFd c rq hrd hm] at hp
    cases hp
    have hne : afterOpen (readKindHead rq) ≠ [] := List.cons_ne_nil _ _
    cases hkey : fs.key with
    | none =>
      have e : execAct c rq fs { l with prog := afterOpen (readKindHead rq) } .ropen =
          (fs, fail { l with prog := afterOpen (readKindHead rq), views := fs.key :: l.views }) := by
        simp only [execAct, hkey]
      simp only [e]
      rw [finalize_running _ _ (.inr (Option.some_ne_none _))]
      exact .failed rfl rfl a4
    | some k =>
      have e : execAct c rq fs { l with prog := afterOpen (readKindHead rq) } .ropen =
          (fs, { l with prog := afterOpen (readKindHead rq), views := fs.key :: l.views, fd := some k }) := by
        simp only [execAct, hkey]
      simp only [e]
      rw [finalize_running _ _ (.inl hne)]
      have hlt : k < fs.inodes.length := by have := hk k hkey; omega
      refine .running k (fs.inodes[k]) rfl (List.getElem?_eq_getElem hlt) a3 (afterOpen_readActs _) hne ?_
      obtain ⟨n, h1, h2, _, _⟩ := solo_eval (fs.inodes[k]) (readKindHead rq)
        ({ l with prog := afterOpen (readKindHead rq), views := fs.key :: l.views, fd := some k } : Local).nv rfl a2
      exact ⟨n, h1, h2⟩
  | running k ino a1 a2 a3 hacts _ hsolo =>
    obtain ⟨ha_read, ha_ne⟩ := hacts a (by rw [hp]; exact List.mem_cons_self)
    have ht : (target c fs l).bind (fs.inodes[·]?) = some ino := by simp [target, hm, a1, a2]
    obtain ⟨e1, e2⟩ := execAct_read_some c rq fs l a rest ino ht ha_read ha_ne hp
    simp only [e1]
    generalize hl1 : (execAct c rq fs { l with prog := rest } a).2 = l1 at e2
    have hfd1 : l1.fd = some k := by
      rcases (execAct_frame c rq fs { l with prog := rest } a).2.2.2 with e | ⟨e, _⟩
      · rw [← hl1, e]; exact a1
      · exact absurd e ha_ne
    have hres1 : l1.result = none :=
      hl1 ▸ (execAct_read_some_result c rq fs l a rest ino ht ha_read ha_ne hp).trans a3
    have hsolo1 : SoloOK ino (readKindHead rq) l1 := SoloOK_step hsolo hp e2
    have hsub : ∀ b ∈ l1.prog, b.isReadAct = true ∧ b ≠ .ropen := fun b hb =>
      (execAct_prog_sub c rq fs { l with prog := rest } a b (hl1 ▸ hb)).elim
        (fun h => hacts b (by rw [hp]; exact List.mem_cons_of_mem _ h))
        (fun h => by obtain ⟨_, rfl⟩ := Act.queues_read h ha_read; exact ⟨rfl, nofun⟩)
    by_cases hnil : l1.prog = []
    · -- the last step: the answer is computed from what was collected
      obtain ⟨n, _, h2⟩ := hsolo1
      rw [soloRun_nil _ _ _ (show l1.nv.prog = [] from hnil)] at h2
      have h2' : l1.acc = accOf ino (readKindHead rq) := h2
      rw [finalize_done _ _ hnil hres1]
      refine .answered k ino hfd1 a2 hnil ?_
      cases hkind : rq.kind <;> simp [hkind, Kind.isRead] at hrd <;>
        simp [answer, hkind, hfd1, a2, h2', accOf, observe, readKindHead]
    · rw [finalize_running _ _ (.inl hnil)]
      exact .running k ino hfd1 a2 hres1 hsub hnil hsolo1

theorem FdInv_reach {c : Cfg} {fs0 : FS} {rqs : List Req} {s : State} (hm : c.rmode = .byFd) (h0 : KeyLast fs0)
    (h : Reach c (init c fs0 rqs) s) :
    GInv fs0 rqs s ∧
      ∀ (i : Nat) (rq : Req) (l : Local), s.reqs[i]? = some (rq, l) → rq.kind.isRead = true → FdState c s.fs rq l :=
  have key := reach_init (G := fun _ => True) (P := fun _ fs rq l => rq.kind.isRead = true → FdState c fs rq l)
    (fun _ _ _ _ _ ⟨ext, he⟩ hP hrd => FdState_mono (hP hrd) ext he)
    (fun _ _ _ _ _ _ _ g _ _ hP hp => ⟨trivial, fun hrd => FdState_own hm g.last hrd (hP hrd) hp⟩)
    trivial (fun _ _ _ _ => .fresh rfl rfl rfl rfl) h0 h
  ⟨key.1, key.2.2⟩

theorem ResKind_reach {c : Cfg} {fs0 : FS} {rqs : List Req} {s : State} (h : Reach c (init c fs0 rqs) s) :
    ∀ (i : Nat) (rq : Req) (l : Local) (r : ReadResp), s.reqs[i]? = some (rq, l) → l.result = some (.read r) →
      rq.kind.isRead = true := by
  intro i rq l r hi
  refine (reach_induct (G := fun _ => True) (P := fun _ _ rq l => ∀ r, l.result = some (.read r) → rq.kind.isRead = true)
    (fun _ _ _ _ _ _ hP => hP) (fun _ fs rq l a rest _ hP hp => ⟨trivial, fun r hr => ?_⟩) trivial ?_ h).2 i rq l hi r
  · exact (after_read_result hr).elim (hP r) answer_read_kind
  · intro i rq l hi r hr
    obtain ⟨_, rfl⟩ := init_reqs hi
    cases hr

theorem read_answer_reach {c : Cfg} {fs0 : FS} {rqs : List Req} {s : State} {i : Nat} {rq : Req} {l : Local}
    {r : ReadResp} (hm : c.rmode = .byFd) (h0 : KeyLast fs0) (h : Reach c (init c fs0 rqs) s)
    (hi : s.reqs[i]? = some (rq, l)) (hres : l.result = some (.read r)) :
    GInv fs0 rqs s ∧ ∃ k ino, l.fd = some k ∧ s.fs.inodes[k]? = some ino ∧ r = observe ino (rq.kind == .head) := by
  obtain ⟨g, fd⟩ := FdInv_reach hm h0 h
  refine ⟨g, ?_⟩
  cases fd i rq l hi (ResKind_reach h i rq l r hi hres) with
  | fresh _ _ a3 _ => rw [a3] at hres; cases hres
  | running _ _ _ _ a3 => rw [a3] at hres; cases hres
  | failed _ a2 _ => rw [a2] at hres; cases hres
  | answered k ino a1 a2 _ a4 => rw [a4] at hres; cases hres; exact ⟨k, ino, a1, a2, rfl⟩

end Vgw.Model.Conc
