/-
  Soundness of the executable forms of `QuietRun` (Model/IAMQuiet.lean; the driver labels real
  schedules with it) and of `NoMut` (`noMutB`; the examples discharge `lookup_after_ack`'s hypothesis so).
-/
import Vgw.Lemmas.IAMAfterAck
namespace Vgw.Model.IAM
open Vgw
open Vgw.Model.Gw (Account Role)

theorem quietAtB_sound {v : Variant} {σ : State} {i : Nat} {c : Call} (h : quietAtB v σ i c = true) : QuietAt v σ i c := by
  simp only [quietAtB, Bool.and_eq_true] at h
  refine ⟨?_, ?_⟩
  · intro j cj hji hj hk
    have hlt := (List.getElem?_eq_some_iff.mp hj).1
    have := (List.all_eq_true.mp h.1) j (List.mem_range.mpr hlt)
    rw [hj] at this
    simp only [Bool.or_eq_true, beq_iff_eq, bne_iff_ne, ne_eq, Bool.and_eq_true, Bool.not_eq_true'] at this
    rcases this with (h1 | h1) | h1
    · exact absurd h1 hji
    · exact absurd hk h1
    · refine ⟨h1.1, ?_⟩
      intro a g hpc; rw [hpc] at h1; simp [isFetched] at h1
  · intro a ha
    have := h.2
    rw [ha] at this
    simpa using this

theorem quietStepB_sound {v : Variant} {σ : State} {a : Act} (h : quietStepB v σ a = true) : QuietStep v σ a := by
  cases a with
  | step i =>
    intro c b' hi hpc
    simp only [quietStepB, hi, hpc, isTemp, Bool.not_true, Bool.false_or] at h
    exact quietAtB_sound h
  | _ => trivial

theorem quietRunB_sound {v : Variant} {cfg : Cfg} {σ : State} {acts : List Act} (h : quietRunB v cfg σ acts = true) :
    QuietRun v cfg σ acts := by
  induction acts generalizing σ with
  | nil => trivial
  | cons a rest ih =>
    simp only [quietRunB, Bool.and_eq_true] at h
    exact ⟨quietStepB_sound h.1, ih h.2⟩

/-- executable form of `NoMut` -/
def noMutB (σ : State) (k : Bytes) : Bool :=
  σ.calls.all fun c => !(c.op.isMut && c.op.key == k) || isDone c.pc

theorem noMutB_sound {σ : State} {k : Bytes} (h : noMutB σ k = true) : NoMut σ k := by
  intro j c hj hm hk
  have hmem : c ∈ σ.calls := List.mem_of_getElem? hj
  have := (List.all_eq_true.mp h) c hmem
  simpa [hm, hk] using this

end Vgw.Model.IAM
