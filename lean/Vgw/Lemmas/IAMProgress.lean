/-
  Progress: a call that runs while every other call has returned is never blocked and returns
  within `fuel` steps (`call_quiescent`): every step lowers `rank`, and alone
  nothing blocks.
-/
import Vgw.Lemmas.IAMLock
namespace Vgw.Model.IAM
open Vgw
open Vgw.Model.Gw (Account Role)

/-- an upper bound on the steps left.  The longest program (start → mLocked → … → mRenamed → mCache
→ done) has 8; mFailed = 2 sits between mRenamed = 3 and mCache = 1.  So `fuel = 10` is slack. -/
def rank : PC → Nat
  | .start => 9
  | .mLocked => 8 | .mRead _ => 7 | .mRemoved _ => 6 | .mBackedUp _ => 5 | .mTemp _ => 4
  | .mRenamed => 3 | .mFailed _ => 2 | .mCache => 1
  | .gMiss _ => 5 | .gRLocked _ => 4 | .gGot _ _ => 3 | .gFetched _ _ => 1
  | .lRLocked => 2 | .lGot _ => 1
  | .done _ => 0

def isDone : PC → Bool
  | .done _ => true
  | _ => false

theorem rank_eq_zero {pc : PC} : rank pc = 0 ↔ ∃ r, pc = .done r := by
  cases pc <;> simp [rank]

theorem isDone_iff {pc : PC} : isDone pc = true ↔ ∃ r, pc = .done r := by
  cases pc <;> simp [isDone]

theorem Step.rank_lt {v : Variant} {cfg : Cfg} {σ σ₁ : State} {i : Nat} {op : Op} {pc pc' : PC}
    (h : Step v cfg σ i op pc σ₁ pc') : rank pc' < rank pc := by
  cases h <;> exact Nat.le_of_ble_eq_true rfl

theorem unlocked_of_done {pc : PC} (h : isDone pc = true) : inW pc = false ∧ inR pc = false := by
  obtain ⟨r, rfl⟩ := isDone_iff.mp h
  exact ⟨rfl, rfl⟩

theorem stepCall_done (v : Variant) (cfg : Cfg) (σ : State) (i : Nat) (c : Call) (hd : isDone c.pc = true) :
    stepCall v cfg σ i c = σ := by
  obtain ⟨op, pc⟩ := c
  obtain ⟨r, rfl⟩ := isDone_iff.mp hd
  rfl

theorem stepAt_done (v : Variant) (cfg : Cfg) (σ : State) (n : Nat) (c : Call)
    (hi : σ.calls[n]? = some c) (hd : isDone c.pc = true) : stepAt v cfg σ n = σ := by
  simp only [Model.IAM.stepAt, hi, stepCall_done v cfg σ n c hd]

/-- every call but `n` has returned -/
def Alone (σ : State) (n : Nat) : Prop := ∀ j c, j ≠ n → σ.calls[j]? = some c → isDone c.pc = true

theorem Alone.writer {cfg : Cfg} {σ : State} {n : Nat} (hA : Alone σ n) (hW : Wf cfg σ) :
    σ.writer = none ∨ σ.writer = some n := by
  cases hw : σ.writer with
  | none => exact Or.inl rfl
  | some w =>
    refine .inr (congrArg some (Classical.byContradiction fun hwn => ?_))
    have hlt := hW.b.wlt w hw
    have hj : σ.calls[w]? = some σ.calls[w] := by simp [hlt]
    have := (hW.l.calls w _ hj).w.mpr hw
    rw [(unlocked_of_done (hA w _ hwn hj)).1] at this
    cases this

theorem Alone.readers {cfg : Cfg} {σ : State} {n : Nat} (hA : Alone σ n) (hW : Wf cfg σ) :
    ∀ r ∈ σ.readers, r = n := by
  intro r hr
  refine Classical.byContradiction fun hrn => ?_
  have hlt := hW.b.rlt r hr
  have hj : σ.calls[r]? = some σ.calls[r] := by simp [hlt]
  have := (hW.l.calls r _ hj).r.mpr hr
  rw [(unlocked_of_done (hA r _ hrn hj)).2] at this
  cases this

/-- alone, the locks are free unless the call holds them itself, and the file is in place whenever it looks -/
theorem Alone.not_blocked {cfg : Cfg} {σ : State} {n : Nat} {c : Call}
    (hW : Wf cfg σ) (hA : Alone σ n) (hi : σ.calls[n]? = some c) (hnd : isDone c.pc = false) : ¬ Blocked σ c.pc := by
  have hc := hW.l.calls n c hi
  have hfreeW : inW c.pc = false → σ.writer = none := by
    intro h
    rcases hA.writer hW with h' | h'
    · exact h'
    · have := hc.w.mpr h'; rw [h] at this; cases this
  have hfreeR : inR c.pc = false → σ.readers = [] := by
    intro h
    refine List.eq_nil_iff_forall_not_mem.mpr fun r hr => ?_
    have := hc.r.mpr (hA.readers hW r hr ▸ hr); rw [h] at this; cases this
  have hp := hc.pc
  obtain ⟨op, pc⟩ := c
  cases pc
  case start => exact fun h => h ⟨hfreeW rfl, hfreeR rfl⟩
  case gMiss => exact fun h => h (hfreeW rfl)
  case mLocked => intro (h : σ.main = none); rw [hp.1] at h; cases h
  case gRLocked | lRLocked =>
    intro (h : σ.main = none); rw [(hW.l.free (hW.l.writer_none (hc.r.mp rfl))).1] at h; cases h
  case done => cases hnd
  all_goals exact id

theorem Alone.stepAt {v : Variant} {cfg : Cfg} {σ : State} {n : Nat} (hA : Alone σ n) :
    Alone (stepAt v cfg σ n) n := by
  intro j c hj hc
  rw [stepAt_other v cfg σ n j hj] at hc
  exact hA j c hj hc

theorem stepAt_progress {v : Variant} {cfg : Cfg} {σ : State} {n : Nat} {c : Call}
    (hW : Wf cfg σ) (hA : Alone σ n) (hi : σ.calls[n]? = some c) :
    ∃ pc', (stepAt v cfg σ n).calls[n]? = some ⟨c.op, pc'⟩ ∧ rank pc' ≤ rank c.pc - 1 := by
  simp only [Model.IAM.stepAt, hi]
  rcases stepCall_cases v cfg σ n c with ⟨hb, he⟩ | ⟨σ₁, pc', hs, he⟩
  · have hd : isDone c.pc = true := Classical.byContradiction fun hd =>
      hA.not_blocked hW hi (Bool.eq_false_iff.mpr hd) hb
    obtain ⟨r, hr⟩ := isDone_iff.mp hd
    exact ⟨c.pc, by rw [he]; exact hi, by rw [hr]; exact Nat.le_refl _⟩
  · rw [he]
    exact ⟨pc', getElem?_setCall_self _ hs.calls hi, Nat.le_sub_one_of_lt hs.rank_lt⟩

theorem stepN_returns {v : Variant} {cfg : Cfg} (m : Nat) : ∀ {σ : State} {n : Nat} {c : Call},
    Wf cfg σ → Alone σ n → σ.calls[n]? = some c → rank c.pc ≤ m →
    ∃ r, (stepN v cfg σ n m).calls[n]? = some ⟨c.op, .done r⟩ ∧ Alone (stepN v cfg σ n m) n ∧
      Wf cfg (stepN v cfg σ n m) := by
  induction m with
  | zero =>
    intro σ n c hW hA hi hr
    obtain ⟨r, hpc⟩ := rank_eq_zero.mp (Nat.le_zero.mp hr)
    exact ⟨r, by rw [← hpc]; exact hi, hA, hW⟩
  | succ m ih =>
    intro σ n c hW hA hi hr
    obtain ⟨pc', h1, h2⟩ := stepAt_progress (v := v) hW hA hi
    exact ih (c := ⟨c.op, pc'⟩) (hW.stepAt n) hA.stepAt h1 (Nat.le_trans h2 (by omega))

/-- every call has returned -/
def Quiescent (σ : State) : Prop := ∀ (j : Nat) (c : Call), σ.calls[j]? = some c → isDone c.pc = true

theorem alone_invoke {σ : State} (hQ : Quiescent σ) (op : Op) :
    Alone { σ with calls := σ.calls ++ [⟨op, .start⟩] } σ.calls.length :=
  fun j c hj hc => forall_invoke (P := fun j c => j ≠ σ.calls.length → isDone c.pc = true) (fun h => absurd rfl h)
    (fun j c hc _ => hQ j c hc) j c hc hj

theorem stepN_length (v : Variant) (cfg : Cfg) (n m : Nat) (σ : State) :
    (stepN v cfg σ n m).calls.length = σ.calls.length :=
  stepN_ind (P := fun σ' => σ'.calls.length = σ.calls.length) n m rfl fun σ' h => (stepAt_length v cfg σ' n).trans h

theorem Quiescent.init (s : Store) (now : Nat) : Quiescent (init s now) := fun _ _ h => nomatch h

theorem call_quiescent {v : Variant} {cfg : Cfg} {σ : State} (hW : Wf cfg σ) (hQ : Quiescent σ) (op : Op) :
    ∃ r, (call v cfg σ op).calls[σ.calls.length]? = some ⟨op, .done r⟩ ∧
      Quiescent (call v cfg σ op) ∧ Wf cfg (call v cfg σ op) ∧
      (call v cfg σ op).calls.length = σ.calls.length + 1 := by
  obtain ⟨r, h1, h2, h3⟩ := stepN_returns (v := v) fuel (hW.act (.invoke op)) (alone_invoke hQ op)
    (getElem?_invoke v cfg σ op) (by decide : rank .start ≤ fuel)
  refine ⟨r, h1, fun j c hc => ?_, h3, by simp [Model.IAM.call, stepN_length, Model.IAM.act]⟩
  by_cases hj : j = σ.calls.length
  · subst hj; rw [Model.IAM.call, h1] at hc; cases hc; rfl
  · exact h2 j c hj hc

end Vgw.Model.IAM
