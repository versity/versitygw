/-
  `ParseGetObjectRange` reads the header by two `strings.Split` and ParseInt on the fields: what ParseInt makes
  of digit strings, which headers split that way, and the answer by the ways through the parser's tail.
-/
import Vgw.Spec.Range
namespace Vgw
open Vgw.Spec.Range

theorem digitsVal_digits {s : Bytes} {acc n : Nat} (h : digitsVal s acc = some n) :
    ∀ c ∈ s, isDigit c = true := by
  induction s generalizing acc with
  | nil => exact fun _ hc => nomatch hc
  | cons c cs ih =>
    rw [digitsVal] at h
    by_cases hd : isDigit c = true
    · rw [if_pos hd] at h
      exact List.forall_mem_cons.mpr ⟨hd, ih h⟩
    · rw [if_neg hd] at h; cases h

theorem parseDigits_digits {s : Bytes} {n : Nat} (h : parseDigits s = some n) :
    s ≠ [] ∧ ∀ c ∈ s, isDigit c = true := by
  cases s with
  | nil => cases h
  | cons c cs => exact ⟨List.cons_ne_nil c cs, digitsVal_digits h⟩

theorem isDigit_ne {c : UInt8} (h : isDigit c = true) : c ≠ 43 ∧ c ≠ 45 ∧ c ≠ 61 := by
  refine ⟨?_, ?_, ?_⟩ <;> (rintro rfl; exact absurd h (by decide))

theorem digits_not_mem {s : Bytes} {n : Nat} (h : IsDigits s n) : (61 : UInt8) ∉ s ∧ (45 : UInt8) ∉ s :=
  have hd := (parseDigits_digits h).2
  ⟨fun hm => (isDigit_ne (hd _ hm)).2.2 rfl, fun hm => (isDigit_ne (hd _ hm)).2.1 rfl⟩

theorem parseInt64_digits {s : Bytes} {n : Nat} (h : IsDigits s n) :
    parseInt64 s = if (n : Int) ≤ int64Max then some (n : Int) else none := by
  have hd := parseDigits_digits h
  cases s with
  | nil => exact absurd rfl hd.1
  | cons c cs =>
    have hc := isDigit_ne (hd.2 c List.mem_cons_self)
    rw [parseInt64, if_neg hc.1, if_neg hc.2.1, show parseDigits (c :: cs) = some n from h]

theorem checked_eq_some {o : Option Nat} {M v : Int}
    (h : (match o with
          | some n => if (n : Int) ≤ M then some (n : Int) else none
          | none => none) = some v) :
    ∃ n, o = some n ∧ v = n ∧ (n : Int) ≤ M := by
  cases o with
  | none => cases h
  | some n =>
    dsimp only at h
    by_cases hle : (n : Int) ≤ M
    · rw [if_pos hle] at h
      exact ⟨n, rfl, (Option.some.inj h).symm, hle⟩
    · rw [if_neg hle] at h; cases h

theorem parseInt64_some_inv {s : Bytes} {v : Int} (h : parseInt64 s = some v) (hm : (45 : UInt8) ∉ s) :
    ∃ n : Nat, IsPlusDigits s n ∧ v = n ∧ (n : Int) ≤ int64Max := by
  cases s with
  | nil => cases h
  | cons c cs =>
    rw [parseInt64] at h
    by_cases hc : c = 43
    · rw [if_pos hc] at h
      obtain ⟨n, hp, hv, hle⟩ := checked_eq_some h
      exact ⟨n, Or.inr ⟨cs, by rw [hc], hp⟩, hv, hle⟩
    · have hc' : c ≠ 45 := fun e => hm (by rw [e]; exact List.mem_cons_self)
      rw [if_neg hc, if_neg hc'] at h
      obtain ⟨n, hp, hv, hle⟩ := checked_eq_some h
      exact ⟨n, Or.inl hp, hv, hle⟩

end Vgw

namespace Vgw.Props.C13
open Vgw Vgw.Model.Range

/-- the tail of ParseGetObjectRange once the first number has been read -/
def inner (size start : Int) (b : Bytes) : Parse :=
  if start ≥ size then ⟨0, 0, false, true⟩ else
  if b = [] then ⟨start, size - start, true, false⟩ else
  match parseInt64 b with
  | none => ⟨0, size, false, false⟩
  | some endOffset =>
    if endOffset < start then ⟨0, size, false, false⟩ else
    if endOffset ≥ size then ⟨start, size - start, true, false⟩ else
    ⟨start, endOffset - start + 1, true, false⟩

end Vgw.Props.C13

namespace Vgw.Model.Range
open Vgw Vgw.Spec.Range Vgw.Props.C13

theorem header_of_split {r spec a b : Bytes} (h1 : splitOn 61 r = [bytesLit, spec])
    (h2 : splitOn 45 spec = [a, b]) :
    r = prefixLit ++ a ++ 45 :: b ∧ (45 : UInt8) ∉ a ∧ (45 : UInt8) ∉ b := by
  have hn := splitOn_no_sep 45 spec
  rw [h2] at hn
  refine ⟨?_, hn a List.mem_cons_self, hn b (List.mem_cons_of_mem a List.mem_cons_self)⟩
  rw [← join_splitOn 61 r, h1, ← join_splitOn 45 spec, h2]
  rfl

theorem parse_cases (size : Int) (r : Bytes) :
    parseGetObjectRange size r = ⟨0, size, false, false⟩ ∨
    ∃ spec a b start, splitOn 61 r = [bytesLit, spec] ∧ splitOn 45 spec = [a, b] ∧
      parseInt64 a = some start := by
  rw [parseGetObjectRange]
  by_cases hr : r = []
  · exact Or.inl (if_pos hr)
  rw [if_neg hr]
  -- of the shapes the two splits can have, all but `[_, _]` are answered invalid outright
  rcases h1 : splitOn 61 r with _ | ⟨unit, _ | ⟨spec, _ | ⟨x, xs⟩⟩⟩
  rotate_left 2
  · by_cases hu : unit = bytesLit
    · subst hu
      dsimp only
      rw [if_neg (not_not_intro rfl)]
      rcases h2 : splitOn 45 spec with _ | ⟨a, _ | ⟨b, _ | ⟨y, ys⟩⟩⟩
      rotate_left 2
      · dsimp only
        cases hpa : parseInt64 a with
        | none => exact Or.inl rfl
        | some start => exact Or.inr ⟨spec, a, b, start, rfl, h2, hpa⟩
      all_goals exact Or.inl rfl
    · exact Or.inl (if_pos hu)
  all_goals exact Or.inl rfl

theorem parse_of_split {size : Int} {r spec a b : Bytes} (h1 : splitOn 61 r = [bytesLit, spec])
    (h2 : splitOn 45 spec = [a, b]) :
    parseGetObjectRange size r =
      match parseInt64 a with
      | none => ⟨0, size, false, false⟩
      | some start => inner size start b := by
  have hr : r ≠ [] := by
    rintro rfl; cases h1
  rw [parseGetObjectRange, if_neg hr, h1]
  dsimp only
  rw [if_neg (not_not_intro rfl), h2]
  rfl

theorem respond_of_parse {size : Int} {r : Bytes} {p : Parse} (h : parseGetObjectRange size r = p) :
    respond size r =
      if p.err then unsatisfiable
      else if p.valid then
        ⟨if r ≠ [] then 206 else 200, p.start, p.length, p.length, some (p.start, p.start + p.length - 1, size)⟩
      else ⟨200, p.start, p.length, p.length, none⟩ := by
  subst h
  unfold respond
  cases parseGetObjectRange size r with
  | mk s l v e => cases e <;> cases v <;> simp [unsatisfiable]

theorem respond_of_valid {size : Int} {r : Bytes} {a len b : Int}
    (h : parseGetObjectRange size r = ⟨a, len, true, false⟩) (hb : a + len - 1 = b) :
    respond size r = partial_ size a b := by
  have hr : r ≠ [] := by
    rintro rfl; rw [parseGetObjectRange, if_pos rfl] at h; cases h
  rw [respond_of_parse h, ← hb]
  simp [partial_, hr]
  omega

section tail
variable {size start : Int} {r b : Bytes} (hp : parseGetObjectRange size r = inner size start b)
include hp

theorem respond_beyond (h : start ≥ size) : respond size r = unsatisfiable := by
  rw [inner, if_pos h] at hp
  exact respond_of_parse hp

theorem respond_open (h : ¬ start ≥ size) (hb : b = []) :
    respond size r = partial_ size start (size - 1) := by
  rw [inner, if_neg h, if_pos hb] at hp
  exact respond_of_valid hp (by omega)

theorem respond_closed {e : Int} (h : ¬ start ≥ size) (hb : parseInt64 b = some e)
    (hle : ¬ e < start) : respond size r = partial_ size start (min e (size - 1)) := by
  have hne : b ≠ [] := by rintro rfl; cases hb
  rw [inner, if_neg h, if_neg hne, hb] at hp
  dsimp only at hp
  rw [if_neg hle] at hp
  split at hp <;> exact respond_of_valid hp (by omega)

theorem respond_ignored (h : ¬ start ≥ size) (hb : b ≠ [])
    (hn : ∀ e, parseInt64 b = some e → e < start) : respond size r = whole size := by
  rw [inner, if_neg h, if_neg hb] at hp
  cases hpb : parseInt64 b with
  | none => rw [hpb] at hp; exact respond_of_parse hp
  | some e =>
    rw [hpb] at hp
    dsimp only at hp
    rw [if_pos (hn e hpb)] at hp
    exact respond_of_parse hp

end tail

theorem respond_of_status_416 {size : Int} {r : Bytes} (h : (respond size r).status = 416) :
    respond size r = unsatisfiable := by
  unfold respond at h ⊢
  by_cases he : (parseGetObjectRange size r).err = true
  · exact if_pos he
  · rw [if_neg he] at h
    dsimp only at h
    split at h <;> cases h

end Vgw.Model.Range

namespace Vgw.Spec.Range

theorem consistent_prescribed (size : Int) (first : Nat) (last : Option Nat) (h : ∀ l ∈ last, first ≤ l) :
    Consistent size (prescribed size first last) := by
  unfold prescribed
  by_cases hge : (first : Int) ≥ size
  · rw [if_pos hge]
    exact Or.inr (Or.inr ⟨rfl, rfl, rfl⟩)
  · rw [if_neg hge]
    refine Or.inr (Or.inl ?_)
    cases last with
    | none => simp [partial_]; omega
    | some l => have := h l rfl; simp [partial_]; omega

end Vgw.Spec.Range
