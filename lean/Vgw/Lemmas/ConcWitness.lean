/-
  Helper lemmas for the witnesses about the regression variants of Model.Conc (Open/C05): a schedule
  run is a reachable state; replays that the register refuses.
-/
import Vgw.Lemmas.ConcStep
import Vgw.Spec.Register
namespace Vgw.Model.Conc
open Vgw.Spec.Register

theorem reach_run (c : Cfg) (s : State) (sched : List Nat) : Reach c s (run c s sched) := by
  induction sched generalizing s with
  | nil => exact Reach.refl
  | cons i sched ih =>
    simp only [run]
    cases h : step c s i with
    | none => simpa using ih s
    | some s' =>
      simp only [Option.getD_some]
      exact Reach.trans (Reach.step Reach.refl h) (ih s')

theorem accepts_false_of_inv {V K O : Type} [DecidableEq O] (obs : V → K → O) (I : Option V → Prop)
    (es : List (Event V K O)) (st : Option V) (hst : I st) (hops : ∀ e ∈ es, ∀ st, I st → I (next st e.op))
    (hm : ∃ e ∈ es, e.ret.isSome = true ∧ ∀ st, I st → admits obs st e.op e.res = false) :
    accepts obs st es = false := by
  induction es generalizing st with
  | nil => obtain ⟨e, he, _⟩ := hm; cases he
  | cons e es ih =>
    obtain ⟨e', he', h1, h2⟩ := hm
    rw [accepts]
    rcases List.mem_cons.1 he' with rfl | hin
    · rw [h2 st hst, Option.isNone_eq_false_iff.2 h1]; rfl
    · rw [ih _ (hops e List.mem_cons_self st hst) (fun x hx => hops x (List.mem_cons_of_mem _ hx)) ⟨e', hin, h1, h2⟩,
        Bool.and_false]

/-- with a value in the register and no DELETE, no replay admits an answered read of "missing". -/
theorem accepts_missing_false {V K O : Type} [DecidableEq O] (obs : V → K → O) (es : List (Event V K O)) (st : Option V)
    (hst : st.isSome = true) (hnd : ∀ e ∈ es, e.op ≠ .delete)
    (hm : ∃ e ∈ es, e.ret.isSome = true ∧ (∃ k, e.op = .read k) ∧ e.res = .missing) : accepts obs st es = false := by
  obtain ⟨e, he, h1, ⟨k, h2⟩, h3⟩ := hm
  refine accepts_false_of_inv obs (·.isSome = true) es st hst (fun e he st hst => ?_) ⟨e, he, h1, fun st hst => ?_⟩
  · cases hop : e.op with
    | write v => rfl
    | delete => exact absurd hop (hnd e he)
    | read k => exact hst
  · rw [h2, h3]
    cases st with
    | none => cases hst
    | some v => rfl

/-- with the register always holding one of the values `S` (no DELETE among the operations), no replay
    admits an answered read whose answer is the observation of none of them. -/
theorem accepts_foreign_false {V K O : Type} [DecidableEq O] (obs : V → K → O) (S : List V) (es : List (Event V K O))
    (st : Option V) (hst : ∃ v ∈ S, st = some v)
    (hops : ∀ e ∈ es, e.op ≠ .delete ∧ ∀ v, e.op = .write v → v ∈ S)
    (hm : ∃ e ∈ es, e.ret.isSome = true ∧ ∃ k o, e.op = .read k ∧ e.res = .value o ∧ ∀ v ∈ S, obs v k ≠ o) :
    accepts obs st es = false := by
  obtain ⟨e, he, h1, k, o, h2, h3, h4⟩ := hm
  refine accepts_false_of_inv obs (fun st => ∃ v ∈ S, st = some v) es st hst (fun e he st hst => ?_)
    ⟨e, he, h1, fun st hst => ?_⟩
  · cases hop : e.op with
    | write v => exact ⟨v, (hops e he).2 v hop, rfl⟩
    | delete => exact absurd hop (hops e he).1
    | read k => exact hst
  · obtain ⟨v, hv, rfl⟩ := hst
    rw [h2, h3]
    exact decide_eq_false (fun h => h4 v hv (Option.some.inj h))

end Vgw.Model.Conc
