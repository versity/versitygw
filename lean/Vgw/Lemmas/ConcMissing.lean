/-
  Lemmas about Model.Conc: with the strategies that never take the name away and no DELETE
  among the requests, an existing key is never seen missing.
-/
import Vgw.Lemmas.ConcFd
namespace Vgw.Model.Conc

/-- the publication strategies that never take the name away: the code as it is (`otmp`, `mktemp`)
    and the non-Linux build (`portable`). -/
def keepsNameStrat (st : Strategy) : Prop := st = .otmp ∨ st = .mktemp ∨ st = .portable

/-- no removing step ahead; a reader has only reading steps ahead and has not answered NoSuchKey. -/
structure NMReq (rq : Req) (l : Local) : Prop where
  norem : ∀ a ∈ l.prog, a.removes = false
  rd : rq.kind.isRead = true → (∀ a ∈ l.prog, a.isReadAct = true) ∧ l.result ≠ some .noSuchKey

theorem program_norem (c : Cfg) (rq : Req) (hs : keepsNameStrat c.strat) (hd : rq.kind ≠ .delete) :
    ∀ a ∈ program c rq, a.removes = false := by
  suffices h : (program c rq).all (fun a => !a.removes) = true from
    fun a ha => by simpa using List.all_eq_true.1 h a ha
  cases hw : rq.kind.isWrite
  · have hr : rq.kind.isRead = true := by cases hk : rq.kind <;> simp_all [Kind.isWrite, Kind.isRead]
    refine List.all_eq_true.2 fun a ha => ?_
    have := List.all_eq_true.1 (program_read_all c rq hr) a ha
    simp only [Bool.and_eq_true] at this
    exact this.1.2
  · refine program_write_all c rq hw _ rfl (fun a ha => ?_) rfl ?_
    · cases a <;> first | rfl | cases ha
    · rcases hs with h | h | h <;> rw [h] <;> rfl

theorem finalize_result_other (rq : Req) (fs : FS) (l : Local) :
    (finalize rq fs l).result = l.result ∨ l.result = none :=
  (finalize_result rq fs l).imp_right fun h => h.2.1

theorem NMReq_own {c : Cfg} {fs : FS} {rq : Req} {l : Local} {a : Act} {rest : List Act} (hk : KeyLast fs)
    (hkey : fs.key ≠ none) (g : NMReq rq l) (hF : c.rmode = .byFd → rq.kind.isRead = true → FdState c fs rq l)
    (hp : l.prog = a :: rest) :
    (after c rq fs l a rest).1.key ≠ none ∧ NMReq rq (after c rq fs l a rest).2 := by
  have ha_norem : a.removes = false := g.norem a (by rw [hp]; exact List.mem_cons_self)
  have hsub := execAct_prog_sub c rq fs { l with prog := rest } a
  refine ⟨?_, ?_, fun hrd => ?_⟩
  · rcases execAct_fs c rq fs { l with prog := rest } a with e | ⟨h, _⟩ | ⟨_, e⟩
    · simp only [e]; exact hkey
    · rw [h] at ha_norem; cases ha_norem
    · simp only [e]; exact fun h => nomatch h
  · intro b hb
    rw [finalize_prog] at hb
    rcases hsub b hb with h | h
    · exact g.norem b (by rw [hp]; exact List.mem_cons_of_mem _ h)
    · exact Bool.eq_false_iff.2 fun hb => by rw [Act.queues_removes h hb] at ha_norem; cases ha_norem
  · obtain ⟨h1, h2⟩ := g.rd hrd
    have ha_read : a.isReadAct = true := h1 a (by rw [hp]; exact List.mem_cons_self)
    obtain ⟨k0, hk0⟩ := Option.ne_none_iff_exists'.1 hkey
    -- the step finds its file: the open the key's entry, every other step the inode it resolves to
    have hres : (execAct c rq fs { l with prog := rest } a).2.result = l.result := by
      by_cases hro : a = .ropen
      · subst hro; simp only [execAct, hk0]
      · obtain ⟨ino, ht⟩ : ∃ ino, (target c fs l).bind (fs.inodes[·]?) = some ino := by
          cases hm : c.rmode with
          | byPath =>
            have hk0lt : k0 < fs.inodes.length := by have := hk k0 hk0; omega
            exact ⟨fs.inodes[k0], by simp only [target, hm, hk0, Option.bind_some]; exact List.getElem?_eq_getElem hk0lt⟩
          | byFd =>
            cases hF hm hrd with
            | fresh a1 _ _ _ =>
              rw [a1, program_byFd c rq hrd hm] at hp
              exact absurd (List.cons.inj hp).1.symm hro
            | running k ino a1 a2 => exact ⟨ino, by simp only [target, hm, a1, Option.bind_some]; exact a2⟩
            | answered _ _ _ _ a1 _ => rw [a1] at hp; cases hp
            | failed a1 _ _ => rw [a1] at hp; cases hp
        exact execAct_read_some_result c rq fs l a rest ino ht ha_read hro hp
    refine ⟨fun b hb => ?_, ?_⟩
    · rw [finalize_prog] at hb
      rcases hsub b hb with h | h
      · exact h1 b (by rw [hp]; exact List.mem_cons_of_mem _ h)
      · obtain ⟨_, rfl⟩ := Act.queues_read h ha_read; rfl
    · rcases finalize_result rq (execAct c rq fs { l with prog := rest } a).1 (execAct c rq fs { l with prog := rest } a).2
        with e | ⟨_, _, e⟩ <;> rw [e]
      · rw [hres]; exact h2
      · exact fun h => answer_ne_noSuchKey _ _ _ (Option.some.inj h)

theorem NMInv_reach {c : Cfg} {fs0 : FS} {rqs : List Req} {s : State} (hs : keepsNameStrat c.strat)
    (h0 : KeyLast fs0) (hk : fs0.key ≠ none) (hd : ∀ rq ∈ rqs, rq.kind ≠ .delete)
    (h : Reach c (init c fs0 rqs) s) :
    GInv fs0 rqs s ∧ ∀ (i : Nat) (rq : Req) (l : Local), s.reqs[i]? = some (rq, l) → NMReq rq l :=
  have key := reach_init (G := fun fs => fs.key ≠ none)
    (P := fun _ fs rq l => NMReq rq l ∧ (c.rmode = .byFd → rq.kind.isRead = true → FdState c fs rq l))
    (fun _ _ _ _ _ ⟨ext, he⟩ hP => ⟨hP.1, fun hm hrd => FdState_mono (hP.2 hm hrd) ext he⟩)
    (fun _ _ _ _ _ _ _ g _ hkey hP hp =>
      have ho := NMReq_own g.last hkey hP.1 hP.2 hp
      ⟨ho.1, ho.2, fun hm hrd => FdState_own hm g.last hrd (hP.2 hm hrd) hp⟩)
    hk (fun _ rq hi => ⟨⟨program_norem c rq hs (hd rq (List.mem_of_getElem? hi)), fun hr =>
      ⟨fun a ha => by
          have := List.all_eq_true.1 (program_read_all c rq hr) a ha
          simp only [Bool.and_eq_true] at this
          exact this.1.1,
        (fun h => nomatch h)⟩⟩, fun _ _ => .fresh rfl rfl rfl rfl⟩) h0 h
  ⟨key.1, fun i rq l hi => (key.2.2 i rq l hi).1⟩

end Vgw.Model.Conc
