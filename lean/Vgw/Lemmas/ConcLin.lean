/-
  Linearization points of Model.Conc, read off the trace: the rename (or the linkat into a free name)
  of a writer, the unlink (or the stat that finds nothing) of a DELETE, the open of a reader; what one
  step of a request does with respect to its point (publication that keeps the name, reads by descriptor).
-/
import Vgw.Lemmas.ConcMissing
import Vgw.Model.ConcHist
namespace Vgw.Model.Conc
open Vgw.Spec.Register

/-- is step `a`, taken when the key's directory entry was `saw`, the linearization point of its request? -/
def isLin (a : Act) (saw : Option Nat) : Bool :=
  match a with
  | .rename | .dunlink | .ropen => true
  | .dstat | .linkatx => saw.isNone
  | _ => false

def isLinEv (e : Ev) : Bool := isLin e.act e.saw

/-- (time, request) of the linearization points, oldest first. -/
def ptsT : List Ev → List (Nat × Nat)
  | [] => []
  | e :: tr => ptsT tr ++ (if isLinEv e then [(tr.length, e.rid)] else [])

theorem ptsT_cons (e : Ev) (tr : List Ev) :
    ptsT (e :: tr) = ptsT tr ++ (if isLinEv e then [(tr.length, e.rid)] else []) := rfl

theorem mem_ptsT_cons {e : Ev} {tr : List Ev} {p : Nat × Nat} (h : p ∈ ptsT (e :: tr)) :
    p ∈ ptsT tr ∨ isLinEv e = true ∧ p = (tr.length, e.rid) := by
  rw [ptsT_cons, List.mem_append] at h
  refine h.imp_right fun h => ?_
  split at h
  · exact ⟨‹_›, List.mem_singleton.1 h⟩
  · cases h

theorem ptsT_lt (tr : List Ev) : ∀ p ∈ ptsT tr, p.1 < tr.length := by
  induction tr with
  | nil => intro p hp; cases hp
  | cons e tr ih =>
    intro p hp
    rcases mem_ptsT_cons hp with h | ⟨_, rfl⟩
    · exact Nat.lt_succ_of_lt (ih p h)
    · exact Nat.lt_succ_self _

theorem ptsT_sorted (tr : List Ev) : ((ptsT tr).map (·.1)).Pairwise (· < ·) := by
  induction tr with
  | nil => exact List.Pairwise.nil
  | cons e tr ih =>
    rw [ptsT_cons, List.map_append, List.pairwise_append]
    refine ⟨ih, by split <;> simp, fun a ha b hb => ?_⟩
    obtain ⟨p, hp, rfl⟩ := List.mem_map.1 ha
    split at hb
    · rw [List.map_singleton, List.mem_singleton] at hb; subst hb; exact ptsT_lt tr p hp
    · cases hb

theorem invT_cons (i : Nat) (e : Ev) (tr : List Ev) :
    invT i (e :: tr) = match invT i tr with
      | some t => some t
      | none => if e.rid = i then some tr.length else none := rfl

theorem invT_lt (i : Nat) (tr : List Ev) (t : Nat) (h : invT i tr = some t) : t < tr.length := by
  induction tr with
  | nil => cases h
  | cons e tr ih =>
    rw [invT_cons] at h
    cases hi : invT i tr with
    | some t0 => rw [hi] at h; cases h; exact Nat.lt_succ_of_lt (ih hi)
    | none =>
      rw [hi] at h
      by_cases he : e.rid = i
      · simp only [he, if_true, Option.some.injEq] at h; subst h; exact Nat.lt_succ_self _
      · simp [he] at h

theorem ptsT_inv (tr : List Ev) : ∀ p ∈ ptsT tr, ∃ t0, invT p.2 tr = some t0 ∧ t0 ≤ p.1 := by
  induction tr with
  | nil => intro p hp; cases hp
  | cons e tr ih =>
    intro p hp
    rw [invT_cons]
    rcases mem_ptsT_cons hp with h | ⟨_, rfl⟩
    · obtain ⟨t0, h0, hle⟩ := ih p h
      exact ⟨t0, by rw [h0], hle⟩
    · cases hi : invT e.rid tr with
      | some t0 => exact ⟨t0, rfl, Nat.le_of_lt (invT_lt _ _ _ hi)⟩
      | none => exact ⟨tr.length, by simp, Nat.le_refl _⟩

theorem retT_cons (i : Nat) (e : Ev) (tr : List Ev) :
    retT i (e :: tr) = if e.rid = i ∧ e.fin = true then some tr.length else retT i tr := rfl

theorem retT_finished {c : Cfg} {s0 s : State} (h0 : s0.trace = []) (h : Reach c s0 s) :
    ∀ (i : Nat) (rq : Req) (l : Local) (T : Nat), s.reqs[i]? = some (rq, l) → retT i s.trace = some T → l.prog = [] := by
  induction h with
  | refl => intro i rq l T _ hT; rw [h0] at hT; cases hT
  | @step _ _ i _ hs ih =>
    obtain ⟨rq, l, a, rest, hr, hp, _, hreqs, htr⟩ := step_spec hs
    intro j rqj lj T hj hT
    rw [htr, retT_cons] at hT
    by_cases hij : i = j
    · subst hij
      rw [hreqs, List.getElem?_set_self (List.getElem?_eq_some_iff.1 hr).1] at hj
      cases hj
      split at hT
      · rename_i hc; exact List.isEmpty_iff.1 hc.2
      · have := ih _ rq l T hr hT
        rw [hp] at this; cases this
    · rw [hreqs, List.getElem?_set_ne hij] at hj
      rw [if_neg (fun hc => hij hc.1)] at hT
      exact ih j rqj lj T hj hT

def Act.isWAct : Act → Bool
  | .wstat | .opentmp | .setattr _ _ | .lstat | .rename | .linkatx | .linktmp | .cstat => true
  | _ => false

/-- the steps that can be linearization points (`linkatx` only when it finds the name free, the
    `dstat` that finds nothing is the point of a DELETE that never reaches its `dunlink`). -/
def Act.isLinAct : Act → Bool
  | .rename | .linkatx | .dunlink | .ropen => true
  | _ => false

def passed (l : Local) : Prop := ∀ a ∈ l.prog, a.isLinAct = false

/-- after these steps of a writer no publishing step is left (`cstat` may end the program early). -/
def Act.settles : Act → Bool
  | .rename | .linkatx | .cstat => true
  | _ => false

/-- writer: only writer steps, after a publishing step or `cstat` no further publishing step; no
    answer before the program is exhausted. -/
structure WState (l : Local) : Prop where
  acts : ∀ a ∈ l.prog, a.isWAct = true
  order : noneAfter Act.settles Act.isLinAct l.prog = true
  res : (l.prog ≠ [] → l.result = none) ∧ (l.prog = [] → l.result = some .ok ∨ l.result = some .err)

/-- DELETE: before its stat (`d0`), before its unlink (`d1`), answered 204 (`d2`), probing for a directory
    after the unlink found nothing (`d3`), answered NoSuchKey (`d4`). -/
inductive DState (l : Local) : Prop where
  | d0 : l.prog = [.dstat, .dunlink] → l.result = none → DState l
  | d1 : l.prog = [.dunlink] → l.result = none → DState l
  | d2 : l.prog = [] → l.result = some .ok → DState l
  | d3 : l.prog = [.rmdirProbe] → l.result = some .noSuchKey → DState l
  | d4 : l.prog = [] → l.result = some .noSuchKey → DState l

theorem passed_of_done {l : Local} (h : l.prog = []) : passed l := by
  intro a ha; rw [h] at ha; cases ha

theorem passed_cons {l l' : Local} {a : Act} {rest : List Act} (hp : l.prog = a :: rest) (hp' : l'.prog = rest) :
    passed l ↔ a.isLinAct = false ∧ passed l' := by
  unfold passed; rw [hp, hp']; exact List.forall_mem_cons

theorem WState.passed_tail {l : Local} {a : Act} {rest : List Act} (h : WState l) (hp : l.prog = a :: rest)
    (ha : a.settles = true) : ∀ b ∈ rest, b.isLinAct = false := by
  have := h.order
  rw [hp, noneAfter_pos rest ha] at this
  exact fun b hb => by simpa using List.all_eq_true.1 this b hb

theorem program_writer_shape (c : Cfg) (rq : Req) (hs : keepsNameStrat c.strat) (hw : rq.kind.isWrite = true) :
    WState { prog := program c rq } := by
  refine ⟨fun a ha => ?_, ?_, fun _ => rfl, fun h => ?_⟩
  · refine List.all_eq_true.1 (program_write_all c rq hw _ rfl (fun a ha => ?_) rfl ?_) a ha
    · cases a <;> first | rfl | cases ha
    · rcases hs with h | h | h <;> rw [h] <;> rfl
  · obtain ⟨pre, hpre, e⟩ := program_write c rq hw
    have hpre' : pre.all (fun b => !b.settles) = true := by rcases hpre with rfl | rfl <;> rfl
    have hset : (setProg rq.sets).all (fun b => !b.settles) = true := by
      rw [setProg, List.all_map]; exact List.all_eq_true.2 fun _ _ => rfl
    simp only [e]
    rw [noneAfter_append _ hpre', noneAfter_append _ hset]
    rcases hs with h | h | h <;> rw [h] <;> split <;> rfl
  · obtain ⟨pre, hpre, e⟩ := program_write c rq hw
    have h' : pre ++ _ = [] := e ▸ h
    rcases hpre with rfl | rfl <;> cases h'

theorem not_passed_init (c : Cfg) (rq : Req) (hs : keepsNameStrat c.strat) (hm : c.rmode = .byFd) :
    ¬ passed { prog := program c rq } := by
  suffices h : (program c rq).any Act.isLinAct = true from fun hp => by
    obtain ⟨a, ha, hl⟩ := List.any_eq_true.1 h
    rw [hp a ha] at hl; cases hl
  cases hw : rq.kind.isWrite
  · cases hk : rq.kind <;> simp [hk, Kind.isWrite] at hw <;> simp only [program, hk, hm] <;> rfl
  · obtain ⟨pre, _, e⟩ := program_write c rq hw
    have : (publishProg c.strat).any Act.isLinAct = true := by rcases hs with h | h | h <;> rw [h] <;> rfl
    rw [e, List.any_append, List.any_append, List.any_append, this, Bool.true_or, Bool.or_true, Bool.or_true]

theorem execAct_wact (c : Cfg) (rq : Req) (fs : FS) (l : Local) (a : Act) (ha : a.isWAct = true) :
    ((execAct c rq fs l a).2.prog = l.prog ∧ (execAct c rq fs l a).2.result = l.result) ∨
    (a = .cstat ∧ fs.key = none ∧ (execAct c rq fs l a).2.prog = [] ∧ (execAct c rq fs l a).2.result = some .err) ∨
    (a = .linkatx ∧ fs.key ≠ none ∧ (execAct c rq fs l a).2.prog = .linktmp :: .lstat :: .rename :: l.prog ∧
      (execAct c rq fs l a).2.result = l.result) := by
  cases a with
  | wstat | opentmp | setattr _ _ | lstat | rename | linktmp => exact .inl ⟨rfl, rfl⟩
  | linkatx =>
    simp only [execAct]
    split
    · exact .inl ⟨rfl, rfl⟩
    · rename_i h; exact .inr (.inr ⟨trivial, h ▸ Option.some_ne_none _, rfl, rfl⟩)
  | cstat =>
    simp only [execAct]
    split
    · rename_i h; exact .inr (.inl ⟨trivial, h.2, rfl, rfl⟩)
    · exact .inl ⟨rfl, rfl⟩
  | _ => cases ha

theorem WState.of_prog {l : Local} {p : List Act} (hp : l.prog = p) (h1 : ∀ a ∈ p, a.isWAct = true)
    (h2 : noneAfter Act.settles Act.isLinAct p = true)
    (h3 : (p ≠ [] → l.result = none) ∧ (p = [] → l.result = some .ok ∨ l.result = some .err)) : WState l := by
  subst hp; exact ⟨h1, h2, h3⟩

theorem WState_own {c : Cfg} {rq : Req} {fs : FS} {l : Local} {a : Act} {rest : List Act}
    (hw : rq.kind.isWrite = true) (h : WState l) (hp : l.prog = a :: rest) :
    WState (after c rq fs l a rest).2 := by
  have ha : a.isWAct = true := h.acts a (by rw [hp]; exact List.mem_cons_self)
  have hres0 : l.result = none := h.res.1 (by rw [hp]; exact List.cons_ne_nil _ _)
  have hrest : ∀ b ∈ rest, b.isWAct = true := fun b hb => h.acts b (by rw [hp]; exact List.mem_cons_of_mem _ hb)
  have hord := h.order
  rw [hp] at hord
  have hrun : ∀ l1 : Local, l1.prog ≠ [] ∨ l1.result ≠ none →
      (finalize rq (execAct c rq fs { l with prog := rest } a).1 l1).result = l1.result :=
    fun l1 h1 => by rw [finalize_running _ _ h1]
  have hdone : ∀ l1 : Local, l1.prog = [] → l1.result = none →
      (finalize rq (execAct c rq fs { l with prog := rest } a).1 l1).result = some .ok :=
    fun l1 h1 h2 => by rw [finalize_done _ _ h1 h2, answer_write _ _ hw]
  rcases execAct_wact c rq fs { l with prog := rest } a ha with ⟨e1, e2⟩ | ⟨rfl, _, e1, e2⟩ | ⟨rfl, _, e1, e2⟩
  · exact .of_prog ((finalize_prog ..).trans e1) hrest (noneAfter_tail hord)
      ⟨fun hne => (hrun _ (.inl (e1 ▸ hne))).trans (e2.trans hres0),
       fun hnil => .inl (hdone _ (e1.trans hnil) (e2.trans hres0))⟩
  · exact .of_prog ((finalize_prog ..).trans e1) nofun rfl
      ⟨fun hne => absurd rfl hne, fun _ => .inr ((hrun _ (.inr (e2 ▸ Option.some_ne_none _))).trans e2)⟩
  · -- linkat found the name taken: linkAndReplace is queued
    refine .of_prog ((finalize_prog ..).trans e1) (fun b hb => ?_) ?_
      ⟨fun _ => (hrun _ (.inl (e1 ▸ List.cons_ne_nil _ _))).trans (e2.trans hres0), fun h => nomatch h⟩
    · simp only [List.mem_cons] at hb
      rcases hb with rfl | rfl | rfl | hb
      · rfl
      · rfl
      · rfl
      · exact hrest b hb
    · rw [noneAfter_pos rest rfl] at hord
      exact hord

theorem DState_own {c : Cfg} {rq : Req} {fs : FS} {l : Local} {a : Act} {rest : List Act}
    (hd : rq.kind = .delete) (h : DState l) (hp : l.prog = a :: rest) :
    DState (after c rq fs l a rest).2 := by
  cases h with
  | d0 h1 h2 =>
    rw [h1] at hp; cases hp
    simp only [execAct]
    split
    · rw [finalize_running _ _ (.inr (Option.some_ne_none _))]; exact .d2 rfl rfl
    · rw [finalize_running _ _ (.inl (List.cons_ne_nil _ _))]; exact .d1 rfl h2
  | d1 h1 h2 =>
    rw [h1] at hp; cases hp
    simp only [execAct]
    split
    · rw [finalize_done (l := { l with prog := [], views := fs.key :: l.views }) _ _ rfl h2]
      exact .d2 rfl (by rw [answer_delete _ _ hd])
    · rw [finalize_running _ _ (.inl (List.cons_ne_nil _ _))]; exact .d3 rfl rfl
  | d2 h1 _ => rw [h1] at hp; cases hp
  | d3 h1 h2 =>
    rw [h1] at hp; cases hp
    simp only [execAct]
    rw [finalize_running _ _ (.inr (by rw [h2]; exact Option.some_ne_none _))]; exact .d4 rfl h2
  | d4 h1 _ => rw [h1] at hp; cases hp

/-- what a request that has passed its linearization point, with the register in state `st` just
    before that point, is committed to answer. -/
def Promise (fs : FS) (rq : Req) (l : Local) (st : Option Inode) : Prop :=
  match rq.kind with
  | .delete => l.result = some .noSuchKey → st = none
  | .get | .head => st = l.fd.bind (fs.inodes[·]?)
  | _ => True

theorem opOf_write {rq : Req} (hw : rq.kind.isWrite = true) : opOf rq = .write (written rq) := by
  unfold opOf; cases hk : rq.kind <;> simp [hk, Kind.isWrite] at hw <;> rfl

theorem opOf_delete {rq : Req} (hd : rq.kind = .delete) : opOf rq = .delete := by unfold opOf; rw [hd]

theorem opOf_read {rq : Req} (hr : rq.kind.isRead = true) : opOf rq = .read (readKindHead rq) := by
  unfold opOf readKindHead; cases hk : rq.kind <;> simp [hk, Kind.isRead] at hr <;> rfl

theorem Promise_write {rq : Req} (hw : rq.kind.isWrite = true) (fs : FS) (l : Local) (st : Option Inode) :
    Promise fs rq l st := by
  unfold Promise; cases hk : rq.kind <;> simp [hk, Kind.isWrite] at hw <;> trivial

theorem Promise_delete {rq : Req} (hd : rq.kind = .delete) (fs : FS) (l : Local) (st : Option Inode) :
    Promise fs rq l st ↔ (l.result = some .noSuchKey → st = none) := by
  unfold Promise; rw [hd]

theorem Promise_read {rq : Req} (hr : rq.kind.isRead = true) (fs : FS) (l : Local) (st : Option Inode) :
    Promise fs rq l st ↔ st = l.fd.bind (fs.inodes[·]?) := by
  unfold Promise; cases hk : rq.kind <;> simp [hk, Kind.isRead] at hr <;> rfl

/-- one step of a request with respect to its linearization point (`true`: the step is the point). -/
inductive StepFacts (rq : Req) (l l' : Local) (fs fs' : FS) : Bool → Prop where
  | point (before : ¬ passed l) (after : passed l') (cur : fs'.cur = next fs.cur (opOf rq))
      (prom : Promise fs' rq l' fs.cur) : StepFacts rq l l' fs fs' true
  | quiet (pass : passed l' ↔ passed l) (cur : fs'.cur = fs.cur)
      (prom : ∀ st, Promise fs rq l st → Promise fs' rq l' st) : StepFacts rq l l' fs fs' false

theorem cur_of_key_none (fs : FS) (h : fs.key = none) : fs.cur = none := by simp [FS.cur, h]

theorem execAct_fs_same (c : Cfg) (rq : Req) (fs : FS) (l : Local) {a : Act} (hr : a.removes = false)
    (hp : a.isPub = false) : (execAct c rq fs l a).1 = fs := by
  rcases execAct_fs c rq fs l a with e | ⟨h, _⟩ | ⟨h, _⟩
  · exact e
  · rw [hr] at h; cases h
  · rw [hp] at h; cases h

theorem facts_writer {c : Cfg} {rq : Req} {fs : FS} {l : Local} {a : Act} {rest : List Act}
    (hw : rq.kind.isWrite = true) (hW : WState l) (hR : RInv rq l) (hp : l.prog = a :: rest) :
    StepFacts rq l (after c rq fs l a rest).2 fs (after c rq fs l a rest).1
      (isLin a fs.key) := by
  unfold after
  have ha : a.isWAct = true := hW.acts a (by rw [hp]; exact List.mem_cons_self)
  have hop := opOf_write hw
  have hprom := Promise_write hw
  -- a successful publication: the key holds the write's object, nothing publishing is left
  have published : a.settles = true →
      (execAct c rq fs { l with prog := rest } a) =
        ({ inodes := fs.inodes ++ [l.tmp], key := some fs.inodes.length }, { l with prog := rest, views := fs.key :: l.views }) →
      a.isPub = true → a.isLinAct = true →
      StepFacts rq l (finalize rq (execAct c rq fs { l with prog := rest } a).1 (execAct c rq fs { l with prog := rest } a).2)
        fs (execAct c rq fs { l with prog := rest } a).1 true := by
    intro hset e hap hal
    refine .point (fun h => ?_) ?_ ?_ (hprom _ _ _)
    · rw [h a (by rw [hp]; exact List.mem_cons_self)] at hal; cases hal
    · intro b hb; rw [finalize_prog, e] at hb; exact hW.passed_tail hp hset b hb
    · simp only [e, hop, next, FS.cur, Option.bind_some]
      rw [List.getElem?_append_right (Nat.le_refl _), (RInv_pub hR hp hap).2]
      simp
  cases a with
  | linkatx =>
    cases hk : fs.key with
    | none => exact published rfl (by simp only [execAct, hk]) rfl rfl
    | some k =>
      have e : execAct c rq fs { l with prog := rest } .linkatx =
          (fs, { l with prog := .linktmp :: .lstat :: .rename :: rest, views := fs.key :: l.views }) := by
        simp only [execAct, hk]
      refine .quiet ?_ (by simp only [e]) fun _ _ => hprom _ _ _
      constructor
      · intro h; have := h .rename (by rw [finalize_prog, e]; simp); cases this
      · intro h; have := h .linkatx (by rw [hp]; exact List.mem_cons_self); cases this
  | rename => exact published rfl rfl rfl rfl
  | wstat | opentmp | setattr _ _ | lstat | linktmp =>
    exact .quiet ((passed_cons hp (finalize_prog ..)).trans ⟨fun h => h.2, fun h => ⟨rfl, h⟩⟩).symm
      rfl fun _ _ => hprom _ _ _
  | cstat =>
    refine .quiet ?_ (congrArg FS.cur (execAct_fs_same c rq fs _ rfl rfl)) fun _ _ => hprom _ _ _
    -- `cstat` may empty the program: nothing publishing was left behind it
    have hrest := hW.passed_tail hp rfl
    constructor
    · intro _ b hb
      rw [hp] at hb
      rcases List.mem_cons.1 hb with rfl | hb
      · rfl
      · exact hrest b hb
    · intro _ b hb
      rw [finalize_prog] at hb
      rcases execAct_wact c rq fs { l with prog := rest } .cstat rfl with ⟨e, _⟩ | ⟨_, _, e, _⟩ | ⟨h, _⟩
      · have e' : (execAct c rq fs { l with prog := rest } .cstat).2.prog = rest := e
        exact hrest b (e' ▸ hb)
      · rw [e] at hb; cases hb
      · cases h
  | _ => cases ha

theorem facts_delete {c : Cfg} {rq : Req} {fs : FS} {l : Local} {a : Act} {rest : List Act}
    (hd : rq.kind = .delete) (hD : DState l) (hp : l.prog = a :: rest) :
    StepFacts rq l (after c rq fs l a rest).2 fs (after c rq fs l a rest).1
      (isLin a fs.key) := by
  unfold after
  have hop := opOf_delete hd
  have hprom := Promise_delete hd
  cases hD with
  | d2 h1 _ => rw [h1] at hp; cases hp
  | d4 h1 _ => rw [h1] at hp; cases hp
  | d0 h1 h2 =>
    rw [h1] at hp; cases hp
    have hbefore : ¬ passed l := fun h => by have := h .dunlink (by rw [h1]; simp); cases this
    cases hk : fs.key with
    | none =>
      have e : execAct c rq fs { l with prog := [.dunlink] } .dstat =
          (fs, { l with prog := [], views := fs.key :: l.views, result := some .ok }) := by simp only [execAct, hk]
      refine .point hbefore (passed_of_done (by rw [finalize_prog, e])) ?_ ?_
      · simp only [e, hop, next]; exact cur_of_key_none fs hk
      · rw [hprom]; exact fun _ => cur_of_key_none fs hk
    | some k =>
      have e : execAct c rq fs { l with prog := [.dunlink] } .dstat =
          (fs, { l with prog := [.dunlink], views := fs.key :: l.views }) := by simp only [execAct, hk]
      refine .quiet ⟨fun h => ?_, fun h => absurd h hbefore⟩ (by simp only [e]) fun st _ => ?_
      · have := h .dunlink (by rw [finalize_prog, e]; simp); cases this
      · rw [hprom]; intro hr
        rw [finalize_running _ _ (.inl (by rw [e]; exact fun h => nomatch h)), e] at hr
        rw [h2] at hr; cases hr
  | d1 h1 h2 =>
    rw [h1] at hp; cases hp
    have hbefore : ¬ passed l := fun h => by have := h .dunlink (by rw [h1]; simp); cases this
    cases hk : fs.key with
    | none =>
      have e : execAct c rq fs { l with prog := [] } .dunlink =
          (fs, { l with prog := [.rmdirProbe], views := fs.key :: l.views, result := some .noSuchKey }) := by
        simp only [execAct, hk]
      refine .point hbefore (fun b hb => ?_) ?_ ?_
      · rw [finalize_prog, e] at hb; simp only [List.mem_singleton] at hb; rw [hb]; rfl
      · simp only [e, hop, next]; exact cur_of_key_none fs hk
      · rw [hprom]; exact fun _ => cur_of_key_none fs hk
    | some k =>
      have e : execAct c rq fs { l with prog := [] } .dunlink =
          ({ fs with key := none }, { l with prog := [], views := fs.key :: l.views }) := by simp only [execAct, hk]
      refine .point hbefore (passed_of_done (by rw [finalize_prog, e])) ?_ ?_
      · simp only [e, hop, next, FS.cur, Option.bind_none]
      · rw [hprom]; intro hr
        rw [e, finalize_done (l := { l with prog := [], views := fs.key :: l.views }) _ _ rfl h2] at hr
        rw [answer_delete _ _ hd] at hr; cases hr
  | d3 h1 h2 =>
    rw [h1] at hp; cases hp
    refine .quiet ?_ rfl fun st hst => ?_
    · exact ((passed_cons h1 (finalize_prog ..)).trans ⟨fun h => h.2, fun h => ⟨rfl, h⟩⟩).symm
    · rw [hprom] at hst ⊢
      exact fun _ => hst h2

theorem Act.read_not_lin {b : Act} (h : b.isReadAct = true) (hne : b ≠ .ropen) :
    b.isLinAct = false ∧ ∀ sw, isLin b sw = false := by
  cases b <;> first | exact ⟨rfl, fun _ => rfl⟩ | exact absurd rfl hne | cases h

theorem facts_reader {c : Cfg} {rq : Req} {fs : FS} {l : Local} {a : Act} {rest : List Act}
    (hm : c.rmode = .byFd) (hrd : rq.kind.isRead = true) (hF : FdState c fs rq l) (hp : l.prog = a :: rest) :
    StepFacts rq l (after c rq fs l a rest).2 fs (after c rq fs l a rest).1
      (isLin a fs.key) := by
  unfold after
  have hop := opOf_read hrd
  have hprom := Promise_read hrd
  cases hF with
  | failed a1 _ _ => rw [a1] at hp; cases hp
  | answered _ _ _ _ a1 _ => rw [a1] at hp; cases hp
  | fresh a1 a2 a3 a4 =>
    rw [a1, program_byFd c rq hrd hm] at hp
    cases hp
    have hfs : (execAct c rq fs { l with prog := afterOpen (readKindHead rq) } .ropen).1 = fs :=
      execAct_fs_same c rq fs _ rfl rfl
    refine .point (fun h => ?_) (fun x hx => ?_) (by simp only [hfs, hop]; rfl) ?_
    · have := h .ropen (by rw [a1, program_byFd c rq hrd hm]; exact List.mem_cons_self); cases this
    · rw [finalize_prog] at hx
      rcases execAct_prog_sub c rq fs { l with prog := afterOpen (readKindHead rq) } .ropen x hx with h | h
      · exact (Act.read_not_lin (afterOpen_readActs _ x h).1 (afterOpen_readActs _ x h).2).1
      · obtain ⟨_, rfl⟩ := Act.queues_read h rfl; rfl
    · rw [hprom, finalize_fd]
      simp only [hfs]
      cases hk : fs.key with
      | none => simp [execAct, fail, a4, FS.cur, hk]
      | some k => simp [execAct, FS.cur, hk]
  | running k ino a1 a2 _ hacts _ _ =>
    -- the open is behind: nothing ahead, before or after the step, is a linearization point
    have hpass : passed l := fun b hb => (Act.read_not_lin (hacts b hb).1 (hacts b hb).2).1
    obtain ⟨ha_read, ha_ne⟩ := hacts a (by rw [hp]; exact List.mem_cons_self)
    have hfs : (execAct c rq fs { l with prog := rest } a).1 = fs :=
      (execAct_read_some c rq fs l a rest ino (by simp [target, hm, a1, a2]) ha_read ha_ne hp).1
    have hfd : (execAct c rq fs { l with prog := rest } a).2.fd = l.fd :=
      (execAct_frame c rq fs { l with prog := rest } a).2.2.2.resolve_right fun h => ha_ne h.1
    rw [(Act.read_not_lin ha_read ha_ne).2]
    refine .quiet ⟨fun _ => hpass, fun _ b hb => ?_⟩ (by simp only [hfs]) fun st hst => ?_
    · rw [finalize_prog] at hb
      rcases execAct_prog_sub c rq fs { l with prog := rest } a b hb with h | h
      · exact hpass b (by rw [hp]; exact List.mem_cons_of_mem _ h)
      · obtain ⟨_, rfl⟩ := Act.queues_read h ha_read; rfl
    · rw [hprom] at hst ⊢
      rw [finalize_fd, hfd]; simp only [hfs]; exact hst

end Vgw.Model.Conc
