/-
  Model.ChunkUnsigned on valid streams: `strings.TrimSpace` leaves the two lines the reader trims alone
  (both start and end with a non-space ASCII byte); one `Read(p)` hands out exactly what fits of what is left.
-/
import Vgw.Lemmas.ChunkSpec
namespace Vgw.Lemmas.ChunkUnsigned
open Vgw Vgw.Spec.Chunked Vgw.Model Vgw.Lemmas.ChunkSpec

/-- a non-space ASCII byte -/
def Plain (c : UInt8) : Prop := c < 128 ∧ isAsciiSpace c = false

instance (c : UInt8) : Decidable (Plain c) := by unfold Plain; infer_instance

/-- bytes 33..127 are neither ≥ 128 nor in {32, 9..13} -/
theorem plain_of_range {lo hi c : UInt8} (h : lo ≤ c ∧ c ≤ hi) (hlo : 33 ≤ lo := by decide)
    (hhi : hi ≤ 127 := by decide) : Plain c := by
  simp only [Plain, isAsciiSpace, UInt8.le_iff_toNat_le, UInt8.lt_iff_toNat_lt, UInt8.reduceToNat,
    Bool.or_eq_false_iff, Bool.and_eq_false_iff, beq_eq_false_iff_ne, decide_eq_false_iff_not, ne_eq,
    ← UInt8.toNat_inj] at *
  omega

theorem hexDigit_plain (c : UInt8) (h : isHexDigit c = true) : Plain c := by
  unfold isHexDigit at h
  revert h
  fun_cases hexDigitVal c with
  | case1 r | case2 _ r | case3 _ _ r => intro _; exact plain_of_range r
  | case4 => nofun

theorem b64_plain (c : UInt8) (h : isB64 c = true ∨ c = 61) : Plain c := by
  simp only [isB64, Bool.or_eq_true, Bool.and_eq_true, decide_eq_true_eq, beq_iff_eq] at h
  rcases h with ((((r | r) | r) | rfl) | rfl) | rfl
  · exact plain_of_range r
  · exact plain_of_range r
  · exact plain_of_range r
  all_goals decide

/-- every pattern starts with a byte ≥ 0x80: the multi-byte spaces cannot match at an ASCII byte -/
def HighFirst (pats : List Bytes) : Prop := ∀ p ∈ pats, (128 : UInt8) ≤ p.headD 0

instance (pats : List Bytes) : Decidable (HighFirst pats) := by unfold HighFirst; infer_instance

theorem uniSpaces_high : HighFirst uniSpaces := by decide

theorem uniSpacesRev_high : HighFirst (uniSpaces.map List.reverse) := by decide

theorem trimLeftFuel_plain {pats : List Bytes} (hp : HighFirst pats) (f : Nat) {c : UInt8} (t : Bytes)
    (hc : Plain c) : trimLeftFuel pats f (c :: t) = c :: t := by
  cases f with
  | zero => rfl
  | succ f =>
    have : pats.find? (fun p => p.isPrefixOf (c :: t)) = none := by
      apply List.find?_eq_none.2
      intro p hpm
      have hb := hp p hpm
      cases p with
      | nil => exact absurd hb (by decide)
      | cons b r =>
        have : b ≠ c := fun e => by subst e; exact absurd hc.1 (UInt8.not_lt.2 hb)
        simp [List.isPrefixOf, this]
    simp [trimLeftFuel, hc.2, this]

theorem trimLeftFuel_spaces {pats : List Bytes} (hp : HighFirst pats) {c : UInt8} (t : Bytes) (hc : Plain c) :
    ∀ (w : Bytes) (f : Nat), (∀ x ∈ w, isAsciiSpace x = true) → w.length ≤ f →
      trimLeftFuel pats f (w ++ c :: t) = c :: t := by
  intro w
  induction w with
  | nil => intro f _ _; exact trimLeftFuel_plain hp f t hc
  | cons x w ih =>
    intro f hw hf
    obtain ⟨f, rfl⟩ := Nat.exists_eq_add_one_of_ne_zero (Nat.ne_zero_of_lt hf)
    simp only [List.cons_append, trimLeftFuel, hw x (by simp), if_true]
    exact ih f (fun y hy => hw y (by simp [hy])) (by simpa using hf)

theorem trimSpace_plain_ends (s w : Bytes) (hc : ∃ c ∈ s.head?, Plain c) (he : ∃ e ∈ s.getLast?, Plain e)
    (hw : ∀ x ∈ w, isAsciiSpace x = true) : trimSpace (s ++ w) = s := by
  obtain ⟨c, hs, hc⟩ := hc
  obtain ⟨t, rfl⟩ := List.head?_eq_some_iff.1 hs
  obtain ⟨e, hs, he⟩ := he
  obtain ⟨u, hs⟩ := List.getLast?_eq_some_iff.1 hs
  unfold trimSpace
  simp only [List.cons_append, trimLeftFuel_plain uniSpaces_high _ _ hc]
  rw [← List.cons_append, hs]
  simp only [List.reverse_append, List.reverse_cons, List.nil_append, List.cons_append,
    List.append_assoc]
  rw [trimLeftFuel_spaces uniSpacesRev_high _ he _ _ (by simpa using hw) (by simp; omega)]
  simp

theorem plain_ends_of_all {s : Bytes} (hne : s ≠ []) (hall : ∀ x ∈ s, Plain x) :
    (∃ c ∈ s.head?, Plain c) ∧ ∃ e ∈ s.getLast?, Plain e :=
  ⟨⟨s.head hne, List.head?_eq_some_head hne, hall _ (List.head_mem hne)⟩,
   ⟨s.getLast hne, List.getLast?_eq_some_getLast hne, hall _ (List.getLast_mem hne)⟩⟩

def ucfg (P : Params) : ChunkUnsigned.Cfg := { csum := P.csum, trailer := P.trailerName }

/-- side conditions on the trailer name ("x-amz-checksum-…" satisfies them) -/
structure UnsignedHyps (P : Params) : Prop where
  name_first : ∃ c t, P.trailerName = c :: t ∧ Plain c
  name_colon : (58 : UInt8) ∉ P.trailerName
  name_cr : (13 : UInt8) ∉ P.trailerName

theorem readLine_append (a r : Bytes) (h : (10 : UInt8) ∉ a) :
    ChunkUnsigned.readLine (a ++ 10 :: r) = some (a ++ [10], r) := by
  induction a with
  | nil => simp [ChunkUnsigned.readLine]
  | cons c cs ih =>
    simp at h
    have hne : c ≠ 10 := fun e => h.1 e.symm
    simp [ChunkUnsigned.readLine, hne, ih h.2]

theorem maxUnsignedChunkSize_eq : ChunkUnsigned.maxUnsignedChunkSize = 5368709120 := rfl

theorem extract_hex (h rest : Bytes) (n : Nat) (hh : IsHex h n) (hn : n ≤ ChunkUnsigned.maxUnsignedChunkSize.toNat) :
    ChunkUnsigned.extractChunkSize (h ++ 13 :: 10 :: rest) = some ((n : Int), rest) := by
  rw [maxUnsignedChunkSize_eq] at hn
  have h10 : (10 : UInt8) ∉ h ++ [13] := by
    simp only [List.mem_append, List.mem_singleton, not_or]
    exact ⟨isHex_not_mem hh 10 not_hex_10, by decide⟩
  have hends := plain_ends_of_all (isHex_ne_nil hh) fun c hc => hexDigit_plain c (isHex_all hh c hc)
  have htrim : trimSpace (h ++ [13] ++ [10]) = h := by
    rw [List.append_assoc]
    exact trimSpace_plain_ends h [13, 10] hends.1 hends.2 (by decide)
  have hb : ¬ ((n : Int) < 0 ∨ (n : Int) > ChunkUnsigned.maxUnsignedChunkSize) := by
    rw [maxUnsignedChunkSize_eq]; omega
  unfold ChunkUnsigned.extractChunkSize
  rw [show h ++ 13 :: 10 :: rest = (h ++ [13]) ++ 10 :: rest by simp, readLine_append _ _ h10]
  simp only [htrim, parseIntHex64_of_isHex hh (by unfold chunkBound; omega), hb, if_false]

theorem trimSpace_trailerLine (P : Params) (H : UnsignedHyps P) (acc : Bytes) :
    trimSpace (trailerLine P acc) = trailerLine P acc := by
  obtain ⟨c, t, hname, hc⟩ := H.name_first
  have hplain : ∀ x ∈ 58 :: checksumB64 P acc, Plain x := fun x hx => by
    rcases List.mem_cons.1 hx with rfl | hx
    · decide
    · exact b64_plain x (b64Encode_chars _ x hx)
  obtain ⟨e, he, hpe⟩ := (plain_ends_of_all (List.cons_ne_nil _ _) hplain).2
  have := trimSpace_plain_ends (trailerLine P acc) [] ⟨c, by rw [trailerLine, hname]; rfl, hc⟩
    ⟨e, by rw [trailerLine, List.getLast?_append, he]; rfl, hpe⟩ nofun
  rwa [List.append_nil] at this

theorem splitColon2_trailerLine (P : Params) (H : UnsignedHyps P) (acc : Bytes) :
    ChunkUnsigned.splitColon2 (trailerLine P acc) = some (P.trailerName, checksumB64 P acc) := by
  have h58 : (58 : UInt8) ∉ checksumB64 P acc := b64Encode_not_mem _ 58 (by decide) (by decide)
  rw [ChunkUnsigned.splitColon2, trailerLine, splitOn_append 58 _ _ H.name_colon, splitOn_of_not_mem 58 _ h58]

theorem readTrailer_ok (P : Params) (H : UnsignedHyps P) (st : ChunkUnsigned.State)
    (hin : st.input = trailerLine P st.hashAcc ++ [13, 10, 13, 10]) :
    (ChunkUnsigned.readTrailer (ucfg P) st).2 = .eof := by
  unfold ChunkUnsigned.readTrailer
  rw [hin, show ∀ l : Bytes, l ++ [13, 10, 13, 10] = l ++ 13 :: [10, 13, 10] from fun _ => rfl,
    readUntil_append 13 _ _ (trailerLine_no_cr P _ H.name_cr)]
  simp [trimSpace_trailerLine P H, splitColon2_trailerLine P H, ucfg, checksumB64]

theorem loop_final (cfg : ChunkUnsigned.Cfg) (cap fuel : Nat) (st : ChunkUnsigned.State) (acc rest : Bytes)
    (hx : ChunkUnsigned.extractChunkSize st.input = some (0, rest))
    (ht : (ChunkUnsigned.readTrailer cfg { st with input := rest }).2 = .eof) :
    ChunkUnsigned.loop cfg cap (fuel + 1) st acc =
      ((ChunkUnsigned.readTrailer cfg { st with input := rest }).1, ⟨acc, .eof⟩) := by
  rw [ChunkUnsigned.loop]
  simp only [hx, ht]
  rfl

theorem loop_chunk (cfg : ChunkUnsigned.Cfg) (cap fuel : Nat) (st : ChunkUnsigned.State) (acc d rest : Bytes)
    (hx : ChunkUnsigned.extractChunkSize st.input = some ((d.length : Int), d ++ (crlf ++ rest))) (hd : d ≠ []) :
    ChunkUnsigned.loop cfg cap (fuel + 1) st acc =
      if cap - acc.length < d.length then
        ({ st with input := rest, hashAcc := st.hashAcc ++ d, stash := d.drop (cap - acc.length) },
          ⟨acc ++ d.take (cap - acc.length), .nil⟩)
      else ChunkUnsigned.loop cfg cap fuel { st with input := rest, hashAcc := st.hashAcc ++ d } (acc ++ d) := by
  have h0 : ((d.length : Int) == 0) = false := by
    have := List.length_pos_iff.2 hd
    simp; omega
  have hskip : ChunkUnsigned.skipBytes [13, 10] (crlf ++ rest) = .ok rest := by
    simp [ChunkUnsigned.skipBytes, crlf, readAndSkip]
  rw [ChunkUnsigned.loop]
  simp only [hx, h0, Int.toNat_natCast, List.length_append, Nat.not_lt.2 (Nat.le_add_right _ _), if_false,
    List.take_left', List.drop_left', hskip, Bool.false_eq_true]
  by_cases hfit : cap - acc.length < d.length
  · simp only [hfit, Nat.min_eq_left (Nat.le_of_lt hfit), if_true]
  · simp only [hfit, Nat.min_eq_right (Nat.not_lt.1 hfit), Nat.lt_irrefl, if_false, List.take_length]

/-- the reader's position inside a rendered stream: `accp` = payload consumed from the wire so far -/
def Inv (P : Params) (hz : Bytes) (st : ChunkUnsigned.State) (accp : Bytes) (cs : List Chunk) : Prop :=
  st.input = renderUnsigned P accp cs hz ∧ st.hashAcc = accp

def ChunksOK (cs : List Chunk) : Prop :=
  ∀ c ∈ cs, IsHex c.1 c.2.length ∧ c.2 ≠ [] ∧ c.2.length ≤ ChunkUnsigned.maxUnsignedChunkSize.toNat

/-- `r` hands out what a buffer of `cap` bytes holds of `rem`: all of it with a clean EOF, or a full buffer,
and then the state is inside the stream with the rest left. -/
def HandsOut (P : Params) (hz : Bytes) (cap : Nat) (rem : Bytes) (r : ChunkUnsigned.State × ChunkUnsigned.Out) : Prop :=
  r.2 = ⟨rem.take cap, if rem.length ≤ cap then .eof else .nil⟩ ∧
  (cap < rem.length → ∃ cs accp, Inv P hz r.1 accp cs ∧ ChunksOK cs ∧ r.1.stash ++ payloadOf cs = rem.drop cap)

theorem loop_spec (P : Params) (H : UnsignedHyps P) (hz : Bytes) (hhz : IsHex hz 0) (cap : Nat) :
    ∀ (cs : List Chunk) (st : ChunkUnsigned.State) (accp acc : Bytes) (fuel : Nat),
      ChunksOK cs → cs.length < fuel → Inv P hz st accp cs → acc.length ≤ cap →
      HandsOut P hz cap (acc ++ payloadOf cs) (ChunkUnsigned.loop (ucfg P) cap fuel st acc) := by
  intro cs
  induction cs with
  | nil =>
    intro st accp acc fuel _ hfuel ⟨hin, hh⟩ hacc
    obtain ⟨fuel, rfl⟩ := Nat.exists_eq_add_one_of_ne_zero (Nat.ne_zero_of_lt hfuel)
    rw [renderUnsigned_nil] at hin
    have hx := extract_hex hz (trailerLine P accp ++ [13, 10, 13, 10]) 0 hhz (Nat.zero_le _)
    rw [← hin] at hx
    rw [loop_final _ _ _ _ _ _ hx (readTrailer_ok P H _ (by rw [hh])), show acc ++ payloadOf [] = acc from List.append_nil acc]
    exact ⟨by rw [List.take_of_length_le hacc, if_pos hacc], fun h => absurd h (Nat.not_lt.2 hacc)⟩
  | cons c cs ih =>
    obtain ⟨h, d⟩ := c
    intro st accp acc fuel hok hfuel ⟨hin, hh⟩ hacc
    obtain ⟨fuel, rfl⟩ := Nat.exists_eq_add_one_of_ne_zero (Nat.ne_zero_of_lt hfuel)
    obtain ⟨⟨hhd, hdne, hdmax⟩, hok⟩ := List.forall_mem_cons.1 hok
    rw [renderUnsigned_cons] at hin
    have hx := extract_hex h (d ++ (crlf ++ renderUnsigned P (accp ++ d) cs hz)) d.length hhd hdmax
    rw [← hin] at hx
    rw [loop_chunk _ _ _ _ _ _ _ hx hdne, payloadOf_cons, ← List.append_assoc]
    by_cases hfit : cap - acc.length < d.length
    · -- the chunk does not fit: fill the buffer, stash the rest
      have hlt : ¬ (acc ++ d ++ payloadOf cs).length ≤ cap := by simp only [List.length_append]; omega
      rw [if_pos hfit]
      refine ⟨?_, fun _ => ⟨cs, accp ++ d, ⟨rfl, by simp [hh]⟩, hok, ?_⟩⟩
      · rw [if_neg hlt, List.append_assoc, List.take_append, List.take_of_length_le hacc,
          List.take_append_of_le_length (Nat.le_of_lt hfit)]
      · rw [List.append_assoc, List.drop_append, List.drop_eq_nil_of_le hacc, List.nil_append,
          List.drop_append_of_le_length (Nat.le_of_lt hfit)]
    · -- the chunk fits: go on with the next one
      rw [if_neg hfit]
      exact ih _ (accp ++ d) (acc ++ d) fuel hok (Nat.lt_of_succ_lt_succ hfuel) ⟨rfl, by simp [hh]⟩
        (List.length_append ▸ Nat.add_le_of_le_sub' hacc (Nat.not_lt.1 hfit))

/-- **One `Read(p)`**: what is left is the pending stash and the payload still on the wire. -/
theorem read_spec (P : Params) (H : UnsignedHyps P) (hz : Bytes) (hhz : IsHex hz 0) (cap : Nat)
    (cs : List Chunk) (st : ChunkUnsigned.State) (accp : Bytes) (hok : ChunksOK cs) (hinv : Inv P hz st accp cs) :
    HandsOut P hz cap (st.stash ++ payloadOf cs) (ChunkUnsigned.read (ucfg P) st cap) := by
  have hfuel : cs.length < st.input.length + 1 := by
    rw [hinv.1]; exact Nat.lt_succ_of_lt ((unsigned_framing P).length_lt hz cs accp)
  unfold ChunkUnsigned.read
  by_cases hs : st.stash = []
  · rw [if_neg (not_not_intro hs), hs]
    exact loop_spec P H hz hhz cap cs st accp [] _ hok hfuel hinv (Nat.zero_le _)
  · rw [if_pos hs]
    by_cases hlt : cap < st.stash.length
    · have hgt : ¬ (st.stash ++ payloadOf cs).length ≤ cap := by simp only [List.length_append]; omega
      simp only [Nat.min_eq_left (Nat.le_of_lt hlt), if_pos hlt]
      refine ⟨?_, fun _ => ⟨cs, accp, hinv, hok, ?_⟩⟩
      · rw [if_neg hgt, List.take_append_of_le_length (Nat.le_of_lt hlt)]
      · rw [List.drop_append_of_le_length (Nat.le_of_lt hlt)]
    · have hle : st.stash.length ≤ cap := Nat.not_lt.1 hlt
      simp only [Nat.min_eq_right hle, if_neg (Nat.lt_irrefl _), List.take_length]
      exact loop_spec P H hz hhz cap cs st accp st.stash _ hok hfuel hinv hle

/-- **io.Copy over the unsigned reader**, for every schedule of non-empty buffers -/
theorem runFrom_spec (P : Params) (H : UnsignedHyps P) (hz : Bytes) (hhz : IsHex hz 0) (caps : Nat → Nat)
    (hcaps : ∀ i, 0 < caps i) :
    ∀ (cs : List Chunk) (st : ChunkUnsigned.State) (accp out0 : Bytes) (fuel i : Nat),
      (st.stash ++ payloadOf cs).length < fuel → ChunksOK cs → Inv P hz st accp cs →
      ChunkUnsigned.runFrom (ucfg P) caps fuel i st out0 = (out0 ++ st.stash ++ payloadOf cs, .eof) := by
  intro cs st accp out0 fuel i hlt
  induction fuel generalizing cs st accp out0 i with
  | zero => exact absurd hlt (Nat.not_lt_zero _)
  | succ fuel ih =>
    intro hok hinv
    have hread := read_spec P H hz hhz (caps i) cs st accp hok hinv
    rw [ChunkUnsigned.runFrom]
    generalize ChunkUnsigned.read (ucfg P) st (caps i) = r at hread ⊢
    obtain ⟨st', o⟩ := r
    obtain ⟨rfl, hrest⟩ := hread
    by_cases hall : (st.stash ++ payloadOf cs).length ≤ caps i
    · simp only [hall, if_true, List.take_of_length_le hall, List.append_assoc]
    · obtain ⟨cs', accp', hinv', hok', hleft⟩ := hrest (Nat.not_le.1 hall)
      have := hcaps i
      simp only [hall, if_false]
      rw [ih cs' st' accp' _ (i + 1) (by rw [hleft, List.length_drop]; omega) hok' hinv', List.append_assoc _ st'.stash,
        hleft, List.append_assoc, List.take_append_drop, List.append_assoc]

end Vgw.Lemmas.ChunkUnsigned
