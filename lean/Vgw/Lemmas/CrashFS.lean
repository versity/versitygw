import Vgw.Model.Crash
import Vgw.Lemmas.ListFind
/-
  Lemmas.CrashFS — the abstract file system of Model.Crash: lookups after updates, restriction to a set of paths,
  and the frame property of steps (a step changes only what it writes), from which the atomicity of step lists
  with at most one non-silent step follows for every observation that depends on those paths only.
-/
namespace Vgw.Model.Crash

theorem find?_key_filter {κ ν : Type} [BEq κ] [LawfulBEq κ] (l : List (κ × ν)) (P : κ → Bool) {q : κ} (h : P q = true) :
    (l.filter (fun e => P e.1)).find? (fun e => e.1 == q) = l.find? (fun e => e.1 == q) :=
  find?_filter_of_imp l fun e he => by rw [eq_of_beq he, h]

theorem find?_key_filter_out {κ ν : Type} [BEq κ] [LawfulBEq κ] (l : List (κ × ν)) (P : κ → Bool) {q : κ} (h : P q = false) :
    (l.filter (fun e => P e.1)).find? (fun e => e.1 == q) = none :=
  find?_filter_of_not l fun e he => by rw [eq_of_beq he, h]

theorem filter_key_filter {κ ν : Type} [BEq κ] [LawfulBEq κ] (l : List (κ × ν)) (P : κ → Bool) {p : κ} (h : P p = false) :
    (l.filter (fun e => !(e.1 == p))).filter (fun e => P e.1) = l.filter (fun e => P e.1) := by
  rw [List.filter_filter]
  apply List.filter_congr
  intro e _
  by_cases he : (e.1 == p) = true
  · rw [eq_of_beq he, h]; rfl
  · rw [Bool.not_eq_true] at he; rw [he]; exact Bool.and_true _

theorem FS.get_del_self (fs : FS) (p : Path) : (fs.del p).get p = none :=
  congrArg _ (find?_key_filter_out fs.ents (fun x => !(x == p)) (by simp))

theorem FS.get_del_ne (fs : FS) {p q : Path} (h : q ≠ p) : (fs.del p).get q = fs.get q :=
  congrArg _ (find?_key_filter fs.ents (fun x => !(x == p)) (by simpa using h))

theorem FS.get_put_self (fs : FS) (p : Path) (n : Node) : (fs.put p n).get p = some n := by
  simp [FS.get, FS.put]

theorem FS.get_put_ne (fs : FS) {p q : Path} (n : Node) (h : q ≠ p) : (fs.put p n).get q = fs.get q := by
  rw [← FS.get_del_ne fs h]
  exact congrArg _ (List.find?_cons_of_neg (by simpa using fun hpq => h hpq.symm))

theorem FS.isDir_congr {fs fs' : FS} {p : Path} (h : fs.get p = fs'.get p) : fs.isDir p = fs'.isDir p := by
  unfold FS.isDir; rw [h]

theorem FS.get_eq_none {fs : FS} {p : Path} (hf : fs.isFile p = false) (hd : fs.isDir p = false) : fs.get p = none := by
  unfold FS.isFile at hf
  unfold FS.isDir at hd
  cases hg : fs.get p with
  | none => rfl
  | some n => cases n <;> simp_all

theorem FS.aget_aput_self (fs : FS) (id : Nat) (n : Node) : (fs.aput id n).aget id = some n := by
  simp [FS.aget, FS.aput]

theorem FS.aget_aput_ne (fs : FS) {id id' : Nat} (n : Node) (h : id' ≠ id) : (fs.aput id n).aget id' = fs.aget id' := by
  simp only [FS.aget, FS.aput]
  rw [List.find?_cons_of_neg (by simpa using fun hh => h hh.symm), find?_key_filter fs.anon (fun x => !(x == id)) (by simpa using h)]

theorem FS.aget_put (fs : FS) (p : Path) (n : Node) (id : Nat) : (fs.put p n).aget id = fs.aget id := rfl
theorem FS.aget_del (fs : FS) (p : Path) (id : Nat) : (fs.del p).aget id = fs.aget id := rfl
theorem FS.get_aput (fs : FS) (id : Nat) (n : Node) (p : Path) : (fs.aput id n).get p = fs.get p := rfl

theorem FS.rget_rput_self (fs : FS) (r : Ref) (n : Node) : (fs.rput r n).rget r = some n := by
  cases r with
  | anon id => exact FS.aget_aput_self fs id n
  | path p => exact FS.get_put_self fs p n

/-- the named entries whose path satisfies `P` (unnamed inodes dropped) -/
def FS.restrict (P : Path → Bool) (fs : FS) : FS := { ents := fs.ents.filter (fun e => P e.1), anon := [] }

theorem FS.restrict_crash (P : Path → Bool) (fs : FS) : (crash fs).restrict P = fs.restrict P := rfl

theorem FS.get_restrict (P : Path → Bool) (fs : FS) {q : Path} (h : P q = true) : (fs.restrict P).get q = fs.get q :=
  congrArg _ (find?_key_filter fs.ents P h)

theorem FS.children_restrict (P : Path → Bool) (fs : FS) (p : Path)
    (h : ∀ q : Path, (q.length == p.length + 1 && p.isPrefixOf q) = true → P q = true) :
    (fs.restrict P).children p = fs.children p := by
  simp only [FS.children, FS.restrict, List.filter_filter]
  apply List.filter_congr
  intro e _
  by_cases hc : (e.1.length == p.length + 1 && p.isPrefixOf e.1) = true
  · rw [hc, h e.1 hc]; rfl
  · simp only [Bool.not_eq_true] at hc; rw [hc]; rfl

theorem FS.isDir_restrict (P : Path → Bool) (fs : FS) {q : Path} (h : P q = true) : (fs.restrict P).isDir q = fs.isDir q := by
  simp only [FS.isDir, FS.get_restrict P fs h]

theorem FS.isFile_restrict (P : Path → Bool) (fs : FS) {q : Path} (h : P q = true) : (fs.restrict P).isFile q = fs.isFile q := by
  simp only [FS.isFile, FS.get_restrict P fs h]

theorem FS.restrict_del (P : Path → Bool) (fs : FS) {p : Path} (h : P p = false) :
    (fs.del p).restrict P = fs.restrict P :=
  congrArg (FS.mk · []) (filter_key_filter fs.ents P h)

theorem FS.restrict_put (P : Path → Bool) (fs : FS) {p : Path} (n : Node) (h : P p = false) :
    (fs.put p n).restrict P = fs.restrict P := by
  rw [← FS.restrict_del P fs h]
  exact congrArg (FS.mk · []) (List.filter_cons_of_neg (by simpa using h))

theorem FS.restrict_aput (P : Path → Bool) (fs : FS) (id : Nat) (n : Node) : (fs.aput id n).restrict P = fs.restrict P := rfl

def Ref.paths : Ref → List Path
  | .anon _ => []
  | .path p => [p]

def Step.writes : Step → List Path
  | .otmp _ _ => []
  | .creat p => [p]
  | .falloc _ => []
  | .chmod _ => []
  | .write r _ => r.paths
  | .setx r _ _ => r.paths
  | .rmx p _ => [p]
  | .mkdir p => [p]
  | .unlink p => [p]
  | .rmdir p => [p]
  | .link _ p => [p]
  | .rename s d => [s, d]

def Step.silent (P : Path → Bool) (s : Step) : Bool := s.writes.all (fun q => !P q)

theorem Step.silent_iff {P : Path → Bool} {s : Step} : s.silent P = true ↔ ∀ q ∈ s.writes, P q = false := by
  simp [Step.silent]

theorem FS.restrict_rput (P : Path → Bool) (fs : FS) (r : Ref) (n : Node) (h : ∀ q ∈ r.paths, P q = false) :
    (fs.rput r n).restrict P = fs.restrict P := by
  cases r with
  | anon id => rfl
  | path p => exact FS.restrict_put P fs n (h p (List.mem_singleton.mpr rfl))

theorem apply_restrict (P : Path → Bool) (s : Step) (fs : FS) (h : s.silent P = true) :
    (apply s fs).restrict P = fs.restrict P := by
  rw [Step.silent_iff] at h
  fun_cases apply s fs
  -- `creat`, `rmx`, `mkdir`, `link`: a put at the path the step writes
  case case2 | case4 | case11 | case14 | case20 => exact FS.restrict_put P fs _ (h _ (List.mem_singleton.mpr rfl))
  -- `unlink`, `rmdir`
  case case15 | case17 => exact FS.restrict_del P fs (h _ (List.mem_singleton.mpr rfl))
  -- `write`, `setx`
  case case7 | case9 => exact FS.restrict_rput P fs _ _ h
  -- `rename`
  case case22 =>
    rw [FS.restrict_put P _ _ (h _ (List.mem_cons_of_mem _ (List.mem_singleton.mpr rfl))), FS.restrict_del P fs (h _ List.mem_cons_self)]
  all_goals rfl

theorem run_nil (fs : FS) : run [] fs = fs := rfl
theorem run_singleton (s : Step) (fs : FS) : run [s] fs = apply s fs := rfl
theorem run_cons (s : Step) (l : List Step) (fs : FS) : run (s :: l) fs = run l (apply s fs) := rfl
theorem run_append (a b : List Step) (fs : FS) : run (a ++ b) fs = run b (run a fs) := List.foldl_append

theorem run_restrict (P : Path → Bool) (l : List Step) (fs : FS) (h : ∀ s ∈ l, s.silent P = true) :
    (run l fs).restrict P = fs.restrict P := by
  induction l generalizing fs with
  | nil => rfl
  | cons s t ih =>
    rw [run_cons, ih (apply s fs) (fun x hx => h x (List.mem_cons_of_mem _ hx)),
      apply_restrict P s fs (h s List.mem_cons_self)]

/-- One commit point: with at most one step writing inside `P`, a kill at any step leaves the `P`-part as it was or as the
    whole list leaves it (silent steps do not move the restriction; after the one loud step all are silent). -/
theorem crashAt_restrict_old_or_new (P : Path → Bool) (l : List Step) (fs : FS)
    (h : l.countP (fun s => !s.silent P) ≤ 1) (n : Nat) :
    (crashAt n l fs).restrict P = fs.restrict P ∨ (crashAt n l fs).restrict P = (run l fs).restrict P := by
  show (run (l.take n) fs).restrict P = _ ∨ (run (l.take n) fs).restrict P = _
  induction l generalizing fs n with
  | nil => exact Or.inl (by rw [List.take_nil, run_nil])
  | cons s t ih =>
    cases n with
    | zero => exact Or.inl rfl
    | succ n =>
      rw [List.take_succ_cons, run_cons, run_cons]
      by_cases hs : s.silent P = true
      · rw [List.countP_cons_of_neg (by simp [hs])] at h
        rw [← apply_restrict P s fs hs]
        exact ih (apply s fs) h n
      · have hall : ∀ x ∈ t, x.silent P = true := by
          rw [List.countP_cons_of_pos (by simpa using hs)] at h
          simpa using List.countP_eq_zero.mp (Nat.le_zero.mp (Nat.le_of_succ_le_succ h))
        right
        rw [run_restrict P (t.take n) _ (fun x hx => hall x (List.mem_of_mem_take hx)), run_restrict P t _ hall]

/-- `obs` reads only the named entries with path in `P`; what the API shows after a kill is stated through this
    (`view`, `listed` and their parts depend on `reads cfg key`, Lemmas.CrashView). -/
def DependsOn {α : Type} (obs : FS → α) (P : Path → Bool) : Prop := ∀ fs, obs (fs.restrict P) = obs fs

namespace DependsOn
variable {α : Type} {obs : FS → α} {P : Path → Bool} (h : DependsOn obs P)
include h

theorem congr {fs fs' : FS} (he : fs.restrict P = fs'.restrict P) : obs fs = obs fs' := by
  rw [← h fs, he, h fs']

theorem crash (fs : FS) : obs (crash fs) = obs fs := h.congr (FS.restrict_crash P fs)

theorem run_silent (l : List Step) (fs : FS) (hl : ∀ s ∈ l, s.silent P = true) : obs (run l fs) = obs fs :=
  h.congr (run_restrict P l fs hl)

theorem crashAt_silent (l : List Step) (fs : FS) (hl : ∀ s ∈ l, s.silent P = true) (n : Nat) : obs (crashAt n l fs) = obs fs :=
  (h.crash _).trans (h.run_silent _ fs (fun s hs => hl s (List.mem_of_mem_take hs)))

theorem crashAt_atomic (l : List Step) (fs : FS) (hc : l.countP (fun s => !s.silent P) ≤ 1) (n : Nat) :
    obs (crashAt n l fs) = obs fs ∨ obs (crashAt n l fs) = obs (run l fs) :=
  (crashAt_restrict_old_or_new P l fs hc n).imp h.congr h.congr

end DependsOn

theorem FS.rget_del (fs : FS) (r : Ref) (obj : Path) (h : ∀ p ∈ r.paths, p ≠ obj) : (fs.del obj).rget r = fs.rget r := by
  cases r with
  | anon id => rfl
  | path p => exact FS.get_del_ne fs (h p (List.mem_singleton.mpr rfl))

def Step.anons : Step → List Nat
  | .otmp id _ => [id]
  | .write (.anon id) _ => [id]
  | .setx (.anon id) _ _ => [id]
  | _ => []

theorem get_apply_frame (s : Step) (fs : FS) (p : Path) (h : p ∉ s.writes) : (apply s fs).get p = fs.get p := by
  have hobs : DependsOn (fun fs => fs.get p) (fun q => q == p) := fun fs => FS.get_restrict _ fs (beq_self_eq_true p)
  refine hobs.congr (apply_restrict _ s fs (Step.silent_iff.mpr fun q hq => ?_))
  exact beq_eq_false_iff_ne.mpr fun hqp => h (hqp ▸ hq)

theorem aget_apply_frame (s : Step) (fs : FS) (id : Nat) (h : id ∉ s.anons) : (apply s fs).aget id = fs.aget id := by
  fun_cases apply s fs
  -- `otmp`
  case case1 id' _ => exact FS.aget_aput_ne fs _ fun he => h (he ▸ List.mem_singleton.mpr rfl)
  -- `write` / `setx` on a reference that is there
  case case7 r _ _ _ _ | case9 r _ _ _ _ =>
    cases r with
    | anon id' => exact FS.aget_aput_ne fs _ fun he => h (he ▸ List.mem_singleton.mpr rfl)
    | path p => rfl
  all_goals rfl

theorem rget_apply_frame (r : Ref) (s : Step) (fs : FS)
    (ha : ∀ id, r = .anon id → id ∉ s.anons) (hp : ∀ p, r = .path p → p ∉ s.writes) : (apply s fs).rget r = fs.rget r := by
  cases r with
  | anon id => exact aget_apply_frame s fs id (ha id rfl)
  | path p => exact get_apply_frame s fs p (hp p rfl)

theorem apply_creat_none (fs : FS) (p : Path) (h : fs.get p = none) : apply (.creat p) fs = fs.put p (.file "" []) := by
  simp [apply, h]

theorem apply_chmod (fs : FS) (r : Ref) : apply (.chmod r) fs = fs := rfl

theorem apply_write_file (fs : FS) (r : Ref) (v d : Val) (a : Attrs) (h : fs.rget r = some (.file d a)) :
    apply (.write r v) fs = fs.rput r (.file v a) := by
  simp [apply, h]

theorem apply_unlink_file (fs : FS) (p : Path) (d : Val) (a : Attrs) (h : fs.get p = some (.file d a)) :
    apply (.unlink p) fs = fs.del p := by
  simp [apply, FS.isFile, h]

theorem apply_link_put (fs : FS) (id : Nat) (p : Path) (n : Node) (h1 : fs.aget id = some n) (h2 : fs.get p = none) :
    apply (.link id p) fs = fs.put p n := by
  simp [apply, h1, h2]

theorem apply_rename_some (fs : FS) (s d : Path) (n : Node) (h : fs.get s = some n) :
    apply (.rename s d) fs = (fs.del s).put d n := by
  simp [apply, h]

end Vgw.Model.Crash
