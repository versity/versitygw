/-
  Lemmas for C14: the Go `strings` shim in declarative terms, `Action.WildCardMatch` against
  Spec.Policy, and the deny-overrides reading of the `isAllowed` loop.
-/
import Vgw.Lemmas.Glob
import Vgw.Spec.Policy
namespace Vgw.Lemmas.Policy
open Vgw Vgw.Go.Strings Vgw.Model.Policy Vgw.Spec.Policy

theorem hasPrefix_iff {s pre : Bytes} : hasPrefix s pre = true ↔ pre <+: s :=
  List.isPrefixOf_iff_prefix

theorem hasSuffix_star_iff {a : Bytes} : hasSuffix a starLit = true ↔ EndsInStar a := by
  unfold hasSuffix EndsInStar starLit
  rw [List.isSuffixOf_iff_suffix, List.getLast?_eq_some_iff]
  exact exists_congr fun _ => eq_comm

theorem trimSuffix_star {a : Bytes} (h : EndsInStar a) : trimSuffix a starLit = a.dropLast := by
  have hs := hasSuffix_star_iff.2 h
  obtain ⟨ys, rfl⟩ := List.getLast?_eq_some_iff.1 h
  unfold hasSuffix at hs
  unfold trimSuffix
  rw [if_pos hs, List.dropLast_concat]
  simp [starLit]

theorem trimPrefix_append (pre rest : Bytes) : trimPrefix (pre ++ rest) pre = rest := by
  unfold trimPrefix
  have : pre.isPrefixOf (pre ++ rest) = true := List.isPrefixOf_iff_prefix.2 (List.prefix_append _ _)
  rw [if_pos this]; simp

theorem containsByte_iff {s : Bytes} {c : UInt8} : containsByte s c = true ↔ c ∈ s := by
  unfold containsByte; exact List.contains_iff_mem

theorem wildCardMatch_iff (a act : Bytes) :
    wildCardMatch a act = true ↔ (EndsInStar a ∧ a.dropLast <+: act) := by
  unfold wildCardMatch
  by_cases he : EndsInStar a
  · rw [if_pos (hasSuffix_star_iff.2 he), trimSuffix_star he, hasPrefix_iff]
    exact ⟨fun hp => ⟨he, hp⟩, fun hp => hp.2⟩
  · rw [if_neg (mt hasSuffix_star_iff.1 he)]
    exact ⟨fun h => (nomatch h), fun h => absurd h.1 he⟩

theorem loop_iff (who act res : Bytes) (pol : List Stmt) (acc : Bool) :
    isAllowedLoop who act res pol acc = true ↔
      ((acc = true ∨ ∃ st ∈ pol, st.effect = allowLit ∧ stmtFindMatch st who act res = true) ∧
        ¬ ∃ st ∈ pol, st.effect = denyLit ∧ stmtFindMatch st who act res = true) := by
  induction pol generalizing acc with
  | nil => simp [isAllowedLoop]
  | cons st rest ih =>
    rw [isAllowedLoop]
    simp only [List.mem_cons, exists_eq_or_imp]
    by_cases hm : stmtFindMatch st who act res = true
    · rw [if_pos hm]
      by_cases ha : st.effect = allowLit
      · have hne : allowLit ≠ denyLit := by decide
        rw [if_pos ha, ih]
        simp only [ha, hm, hne, and_self, true_or, or_true, false_and, false_or]
      · rw [if_neg ha]
        by_cases hd : st.effect = denyLit
        · rw [if_pos hd]
          simp only [hd, hm, and_self, true_or, not_true_eq_false, and_false, Bool.false_eq_true]
        · rw [if_neg hd, ih]
          simp only [ha, hd, false_and, false_or]
    · rw [if_neg hm, ih]
      simp only [hm, Bool.false_eq_true, and_false, false_or]

end Vgw.Lemmas.Policy
