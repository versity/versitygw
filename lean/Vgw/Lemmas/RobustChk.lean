/-
  When a checked computation returns: rules for `noPanic` through `bind`, `map`, `if` and for the
  operations that carry a bound (`idx`, `sliceFrom`, `sliceTo`); `deref` and `makeBytes` compute once
  their argument is known.  A proof that a handler never panics walks along its code with these rules,
  one step per Go statement.  The bound of an index or slice is discharged by `omega` from a length
  fact in the context, which is named where it is obtained.
  Names: `noPanic_<combinator>` is a rule, `<op>_isOk_iff` says when `<op>` returns, `no_panic_<f>` is
  the totality of the model function `f`.  The rules stand in the namespace of the C20 models, where
  `noPanic_ok` and the `_isOk_iff` facts are referred to.
-/
import Vgw.Go.Panic
namespace Vgw.Model.Robust
open Vgw Vgw.Go

@[simp] theorem noPanic_ok {α : Type} (a : α) : noPanic (Except.ok a : Chk α) = true := rfl
@[simp] theorem noPanic_error {α : Type} (e : Panic) : noPanic (Except.error e : Chk α) = false := rfl

theorem noPanic_bind {α β : Type} {x : Chk α} {f : α → Chk β} (hx : noPanic x = true)
    (hf : ∀ a, x = .ok a → noPanic (f a) = true) : noPanic (x.bind f) = true := by
  cases x with
  | error e => cases hx
  | ok a => exact hf a rfl

theorem noPanic_map {α β : Type} (x : Chk α) (f : α → β) : noPanic (x.map f) = noPanic x := by
  cases x <;> rfl

theorem noPanic_ite {α : Type} {c : Prop} [Decidable c] {x y : Chk α}
    (hx : c → noPanic x = true) (hy : ¬ c → noPanic y = true) : noPanic (if c then x else y) = true := by
  by_cases h : c
  · rw [if_pos h]; exact hx h
  · rw [if_neg h]; exact hy h

theorem noPanic_guard {α : Type} {c : Prop} [Decidable c] {a : α} {y : Chk α} (hy : ¬ c → noPanic y = true) :
    noPanic (if c then .ok a else y) = true :=
  noPanic_ite (fun _ => rfl) hy

theorem idx_isOk_iff {α : Type} (a : List α) (i : Int) : noPanic (idx a i) = true ↔ 0 ≤ i ∧ i < a.length := by
  unfold idx
  by_cases h : 0 ≤ i
  · rw [if_pos h]
    cases hg : a[i.toNat]? with
    | some x => have := (List.getElem?_eq_some_iff.mp hg).1; simp [h]; omega
    | none => have := List.getElem?_eq_none_iff.mp hg; simp [h]; omega
  · simp [h]

theorem noPanic_idx_bind {α β : Type} {a : List α} {i : Int} {f : α → Chk β} (hf : ∀ x, noPanic (f x) = true)
    (h : 0 ≤ i ∧ i < a.length := by omega) : noPanic ((idx a i).bind f) = true :=
  noPanic_bind ((idx_isOk_iff a i).mpr h) fun x _ => hf x

theorem sliceFrom_isOk_iff {α : Type} (a : List α) (lo : Int) : noPanic (sliceFrom a lo) = true ↔ 0 ≤ lo ∧ lo ≤ a.length := by
  unfold sliceFrom; split <;> simp [*]

theorem sliceTo_isOk_iff {α : Type} (a : List α) (hi : Int) : noPanic (sliceTo a hi) = true ↔ 0 ≤ hi ∧ hi ≤ a.length := by
  unfold sliceTo; split <;> simp [*]

theorem noPanic_sliceFrom_bind {α β : Type} {a : List α} {lo : Int} {f : List α → Chk β}
    (hf : ∀ x, noPanic (f x) = true) (h : 0 ≤ lo ∧ lo ≤ a.length := by omega) : noPanic ((sliceFrom a lo).bind f) = true :=
  noPanic_bind ((sliceFrom_isOk_iff a lo).mpr h) fun x _ => hf x

theorem noPanic_sliceTo_bind {α β : Type} {a : List α} {hi : Int} {f : List α → Chk β}
    (hf : ∀ x, noPanic (f x) = true) (h : 0 ≤ hi ∧ hi ≤ a.length := by omega) : noPanic ((sliceTo a hi).bind f) = true :=
  noPanic_bind ((sliceTo_isOk_iff a hi).mpr h) fun x _ => hf x

end Vgw.Model.Robust
