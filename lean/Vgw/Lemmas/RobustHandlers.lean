/- C20, part 2: handlers and paging loops; one condition in `fixed` per repaired site. -/
import Vgw.Lemmas.Robust
import Vgw.Model.RobustHandlers
import Vgw.Model.Walk
namespace Vgw.Model.Robust
open Vgw Vgw.Go

theorem splitOn_length_ge_two (sep : UInt8) (s : Bytes) (h : sep ∈ s) : 2 ≤ (splitOn sep s).length := by
  obtain ⟨a, b, rfl, ha⟩ := List.eq_append_cons_of_mem h
  obtain ⟨f, fs, hs⟩ := splitOn_eq_cons sep b
  rw [splitOn_append sep a b ha, hs]
  exact Nat.le_add_left 2 fs.length

theorem aclParser_no_panic_iff (path : Bytes) : noPanic (aclParserBucket path) = true ↔ (47 : UInt8) ∈ path := by
  unfold aclParserBucket
  rw [idx_isOk_iff]
  constructor
  · intro ⟨_, h⟩
    refine Decidable.byContradiction fun hn => ?_
    rw [splitOn_of_not_mem 47 path hn] at h
    cases h
  · intro h
    have := splitOn_length_ge_two 47 path h
    omega

theorem decodeURL_eq_some (fixed : Bool) (u p : Bytes) (h : decodeURL fixed u = some p) :
    p = u ∧ (fixed = true → (47 : UInt8) ∈ u) := by
  revert h
  fun_cases decodeURL fixed u
  case case3 hpre _ =>
    intro h; cases h
    refine ⟨rfl, fun hf => ?_⟩
    cases u with
    | nil => simp [hf] at hpre
    | cons c t =>
      have : (47 : UInt8) = c := by simpa [hf, List.isPrefixOf] using hpre
      simp [this]
  all_goals intro h; cases h

theorem no_panic_decodeThenAclParser (fixed : Bool) (u : Bytes) (h : fixed = true ∨ (47 : UInt8) ∈ u) :
    noPanic (decodeThenAclParser fixed u) = true := by
  unfold decodeThenAclParser
  split
  · rfl
  · rename_i p hp
    obtain ⟨rfl, hf⟩ := decodeURL_eq_some fixed u p hp
    rw [noPanic_map]
    exact (aclParser_no_panic_iff p).mpr (h.elim hf id)

theorem putOwnershipControls_cons (fixed : Bool) (valid : Bytes → Bool) (r : Bytes) (t : List Bytes) :
    putOwnershipControls fixed valid (r :: t) = .ok (t.isEmpty && valid r) := by
  unfold putOwnershipControls
  cases fixed <;> cases t <;> cases h : valid r <;> simp [idx_zero_cons, Except.bind, h]

theorem no_panic_grantIsValid (fixed : Bool) (g : Grant) (h : fixed = true ∨ g.grantee.isSome = true) :
    noPanic (grantIsValid fixed g) = true := by
  unfold grantIsValid
  refine noPanic_guard fun _ => noPanic_guard fun hn => ?_
  cases hg : g.grantee with
  | none => simp [hg] at hn h; simp [h] at hn
  | some x =>
    unfold grtIsValid
    exact noPanic_bind rfl fun _ _ => noPanic_guard fun _ => noPanic_guard fun _ => rfl

theorem no_panic_aclIsValid (fixed : Bool) (l : List Grant) (h : fixed = true ∨ ∀ g ∈ l, g.grantee.isSome = true) :
    noPanic (aclIsValid fixed l) = true := by
  induction l with
  | nil => rfl
  | cons g rest ih =>
    unfold aclIsValid
    refine noPanic_bind (no_panic_grantIsValid fixed g (h.imp_right fun h => h g (List.mem_cons_self ..)))
      fun v _ => noPanic_guard fun _ => ih (h.imp_right fun h g' hg' => h g' (List.mem_cons_of_mem _ hg'))

theorem no_panic_acpValidate (fixed : Bool) (grants : List Grant) (owner : Option (Option Bytes))
    (h : fixed = true ∨ ∀ g ∈ grants, g.grantee.isSome = true) : noPanic (acpValidate fixed grants owner) = true := by
  unfold acpValidate
  refine noPanic_bind (no_panic_aclIsValid fixed grants h) fun v _ => noPanic_guard fun _ => ?_
  split
  · rfl
  · rfl
  · exact noPanic_guard fun _ => rfl

theorem putObjectAclGrants_iff (fixed : Bool) (l : List Grant) :
    noPanic (putObjectAclGrants fixed l) = true ↔ fixed = true ∨ ∀ g ∈ l, g.grantee.isSome = true := by
  induction l with
  | nil => simp [putObjectAclGrants]
  | cons g rest ih =>
    unfold putObjectAclGrants
    cases hg : g.grantee with
    | none => cases fixed <;> simp [deref, Except.bind, hg]
    | some x => simp [deref, Except.bind, noPanic_map, hg, ih]

theorem maxBucketsOf_range (q : Bytes) (n : Int) (h : maxBucketsOf q = some n) : 1 ≤ n ∧ n ≤ 10000 := by
  revert h
  fun_cases maxBucketsOf q
  case case1 | case4 => intro h; cases h; omega
  all_goals intro h; cases h

theorem no_panic_listBucketsLoop (maxBuckets : Int) (hm : 1 ≤ maxBuckets) (token : Bytes) (names : List Bytes) :
    ∀ acc, noPanic (listBucketsLoop maxBuckets token names acc) = true := by
  induction names with
  | nil => intro acc; rfl
  | cons name rest ih =>
    intro acc
    unfold listBucketsLoop
    refine noPanic_ite (fun h => ?_) fun _ => noPanic_ite (fun _ => ih _) fun _ => ih _
    have hne : 1 ≤ (acc.length : Int) := h ▸ hm
    exact noPanic_idx_bind fun last => rfl

theorem no_panic_completeLoop (stored : Int → Option (Int × Bytes)) (parts : List CPart) (last minPart : Int) :
    ∀ (l : List CPart) (i prev total : Int), 0 ≤ i → i + l.length ≤ parts.length →
      noPanic (completeLoop stored parts last minPart l i prev total) = true := by
  intro l
  induction l with
  | nil => intro i prev total _ _; rfl
  | cons part rest ih =>
    intro i prev total h0 hlen
    rw [List.length_cons] at hlen
    unfold completeLoop
    split
    · rfl
    · rename_i pn hpn
      rw [hpn]
      refine noPanic_bind rfl fun pn _ => noPanic_guard fun _ => noPanic_guard fun _ => ?_
      split
      · rfl
      · refine noPanic_guard fun _ => noPanic_bind ((idx_isOk_iff _ _).mpr ⟨h0, by omega⟩) fun p hp => ?_
        split
        · rfl
        · rename_i e he
          -- the second `parts[i]` is the first: its ETag is not nil either
          rw [hp]
          refine noPanic_bind rfl fun p' hp' => ?_
          cases hp'
          rw [he]
          exact noPanic_bind rfl fun _ _ => noPanic_guard fun _ => ih _ _ _ (by omega) (by omega)

/-- `resultUpds[i-1]` is the repaired `resultUpds[len-1]` while nothing was skipped: no key marker -/
theorem no_panic_uploadsLoop (fixed : Bool) (uploads : List Upload) (maxUploads : Int) (keyMarker uploadIdMarker : Bytes) :
    ∀ (fuel : Nat) (i : Int) (res : List Upload), 0 ≤ i →
      (fixed = true ∨ (keyMarker = [] ∧ i = res.length)) →
      noPanic (uploadsLoop fixed uploads maxUploads keyMarker uploadIdMarker fuel i res) = true := by
  intro fuel
  induction fuel with
  | zero => intro i res _ _; rfl
  | succ fuel ih =>
    intro i res h0 hinv
    unfold uploadsLoop
    refine noPanic_guard fun hlt => noPanic_guard fun hmax => noPanic_idx_bind fun u => ?_
    refine noPanic_ite (fun hskip => ih _ _ (by omega) ?_) fun _ => noPanic_ite (fun htr => ?_) fun _ =>
      noPanic_idx_bind fun u' => ih _ _ (by omega) ?_
    · exact hinv.imp_right fun h => absurd h.1 hskip.1
    · have hj : (if fixed = true then (res.length : Int) - 1 else i - 1) = res.length - 1 := by
        rcases hinv with hf | ⟨_, hi⟩
        · rw [if_pos hf]
        · rw [hi, ite_self]
      simp only [hj]
      exact noPanic_idx_bind fun a => noPanic_idx_bind fun b => rfl
    · exact hinv.imp_right fun h => ⟨h.1, by rw [List.length_append, h.2]; rfl⟩

def u (k : UInt8) : Upload := ⟨[k], [k]⟩
theorem listMultipartUploads_asis_witness :
    noPanic (listMultipartUploadsPage false [u 97, u 98, u 99, u 100] 0 1 [97] []) = false := by decide +kernel

theorem length_le_of_hasPrefix {p a : Bytes} (h : ¬ (!p.isPrefixOf a) = true) : p.length ≤ a.length := by
  cases hp : p.isPrefixOf a with
  | false => rw [hp] at h; exact absurd rfl h
  | true => exact (List.isPrefixOf_iff_prefix.mp hp).length_le

theorem isObjectAction_empty_panics (osup opsup : Bytes → Bool) : noPanic (isObjectAction osup opsup []) = false := rfl

theorem lastIndexOf_single (c : UInt8) (s : Bytes) :
    lastIndexOf [c] s = match lastIndexByte c s with | some i => (i : Int) | none => -1 := by
  fun_induction lastIndexByte c s with
  | case1 => rfl
  | case2 x xs i h ih =>
    unfold lastIndexOf
    rw [h] at ih
    simp only [ih]
    rw [if_pos (Int.natCast_nonneg i)]; rfl
  | case3 xs h ih =>
    unfold lastIndexOf
    rw [h] at ih
    simp [ih]
  | case4 x xs h hx ih =>
    unfold lastIndexOf
    rw [h] at ih
    simp [ih, Ne.symm hx]

theorem lastIndexByte_eq_none (c : UInt8) (s : Bytes) (h : c ∉ s) : lastIndexByte c s = none := by
  induction s with
  | nil => rfl
  | cons x xs ih =>
    rw [List.mem_cons, not_or] at h
    unfold lastIndexByte
    rw [ih h.2, if_neg fun e => h.1 e.symm]

end Vgw.Model.Robust
