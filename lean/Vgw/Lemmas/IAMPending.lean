/-
  Vocabulary of the cache invariants: which calls have changed the store but not yet the cache
  (`Pending`); which kind of call stands at which program point (`PcT`, `TInv`).
-/
import Vgw.Lemmas.IAMStep
import Vgw.Model.IAMQuiet
namespace Vgw.Model.IAM
open Vgw
open Vgw.Model.Gw (Account Role)

/-- some call has changed key `k` in the store and still owes the cache its step -/
def Pending (calls : List Call) (k : Bytes) : Prop :=
  ∃ (j : Nat) (c : Call), calls[j]? = some c ∧ pend c.pc = true ∧ c.op.key = k

theorem Pending.of_set {calls : List Call} {i : Nat} {c' : Call} {k : Bytes} (h : Pending (calls.set i c') k) :
    (pend c'.pc = true ∧ c'.op.key = k) ∨ Pending calls k := by
  obtain ⟨j, cj, hj, hp, hk⟩ := h
  by_cases hij : i = j
  · subst hij
    rw [List.getElem?_set_self (List.length_set .. ▸ lt_of_getElem? hj)] at hj
    cases hj; exact .inl ⟨hp, hk⟩
  · rw [List.getElem?_set_ne hij] at hj; exact .inr ⟨j, cj, hj, hp, hk⟩

theorem Pending.set_of {calls : List Call} {i : Nat} {c : Call} (c' : Call) {k : Bytes} (hi : calls[i]? = some c)
    (h : Pending calls k) : Pending (calls.set i c') k ∨ (pend c.pc = true ∧ c.op.key = k) := by
  obtain ⟨j, cj, hj, hp, hk⟩ := h
  by_cases hij : i = j
  · subst hij; rw [hi] at hj; cases hj; exact .inr ⟨hp, hk⟩
  · exact .inl ⟨j, cj, by rw [List.getElem?_set_ne hij]; exact hj, hp, hk⟩

theorem pending_set_new {calls : List Call} {i : Nat} {c c' : Call}
    (hi : calls[i]? = some c) (hp : pend c'.pc = true) : Pending (calls.set i c') c'.op.key :=
  ⟨i, c', List.getElem?_set_self (lt_of_getElem? hi), hp, rfl⟩

theorem pending_set_other {calls : List Call} {i : Nat} {c c' : Call} {k : Bytes}
    (hi : calls[i]? = some c) (hop : c'.op = c.op) (hk : k ≠ c.op.key) :
    Pending (calls.set i c') k ↔ Pending calls k :=
  ⟨fun h => h.of_set.resolve_left fun h' => hk (hop ▸ h'.2.symm),
   fun h => (h.set_of c' hi).resolve_right fun h' => hk h'.2.symm⟩

theorem pending_set_same {calls : List Call} {i : Nat} {c c' : Call} {k : Bytes}
    (hi : calls[i]? = some c) (hop : c'.op = c.op) (hp : pend c'.pc = pend c.pc) :
    Pending (calls.set i c') k ↔ Pending calls k :=
  ⟨fun h => h.of_set.elim (fun h' => ⟨i, c, hi, hp ▸ h'.1, hop ▸ h'.2⟩) id,
   fun h => (h.set_of c' hi).elim id fun h' => h'.2 ▸ hop ▸ pending_set_new hi (hp ▸ h'.1)⟩

theorem pending_set_mono {calls : List Call} {i : Nat} {c c' : Call} {k : Bytes}
    (hi : calls[i]? = some c) (hp : pend c.pc = false) (h : Pending calls k) : Pending (calls.set i c') k :=
  (h.set_of c' hi).resolve_right fun h' => by rw [hp] at h'; cases h'.1

theorem pending_set_anti {calls : List Call} {i : Nat} {c' : Call} {k : Bytes}
    (hp : pend c'.pc = false) (h : Pending (calls.set i c') k) : Pending calls k :=
  h.of_set.resolve_left fun h' => by rw [hp] at h'; cases h'.1

theorem pending_append {calls : List Call} {op : Op} {k : Bytes} :
    Pending (calls ++ [⟨op, .start⟩]) k ↔ Pending calls k := by
  constructor
  · rintro ⟨j, cj, hj, hpj, hkey⟩
    exact forall_invoke (P := fun _ cj => pend cj.pc = true → cj.op.key = k → Pending calls k) (nomatch ·)
      (fun j cj hj hp hk => ⟨j, cj, hj, hp, hk⟩) j cj hj hpj hkey
  · rintro ⟨j, cj, hj, hpj, hkey⟩
    exact ⟨j, cj, by rw [List.getElem?_append_left (lt_of_getElem? hj)]; exact hj, hpj, hkey⟩

/-- program points of GetUserAccount behind the cache lookup -/
def isG : PC → Bool
  | .gMiss _ | .gRLocked _ | .gGot _ _ | .gFetched _ _ => true
  | _ => false

/-- program points of ListUserAccounts -/
def isL : PC → Bool
  | .lRLocked | .lGot _ => true
  | _ => false

/-- inside the store's write section or owing the cache step: the call is a mutation, and a create
is not one of the root key; at the program points of a listing / a lookup: the call is one -/
def PcT (cfg : Cfg) (c : Call) : Prop :=
  ((inW c.pc = true ∨ pend c.pc = true) → c.op.isMut = true ∧ ∀ a, c.op = .create a → a.access ≠ cfg.root.access) ∧
  (isL c.pc = true → c.op = .list) ∧
  (isG c.pc = true → ∃ k, c.op = .get k)

theorem PcT.free {cfg : Cfg} {op : Op} {pc : PC} (hw : inW pc = false) (hp : pend pc = false) (hl : isL pc = false)
    (hg : isG pc = false) : PcT cfg ⟨op, pc⟩ :=
  ⟨fun h => (by rw [hw, hp] at h; cases h <;> contradiction), fun h => (by rw [hl] at h; cases h), fun h => (by rw [hg] at h; cases h)⟩

theorem PcT.mut {cfg : Cfg} {op : Op} {pc : PC} (hl : isL pc = false) (hg : isG pc = false)
    (h : op.isMut = true ∧ ∀ a, op = .create a → a.access ≠ cfg.root.access) : PcT cfg ⟨op, pc⟩ :=
  ⟨fun _ => h, fun h => (by rw [hl] at h; cases h), fun h => (by rw [hg] at h; cases h)⟩

theorem PcT.list {cfg : Cfg} {pc : PC} (hw : inW pc = false) (hp : pend pc = false) (hg : isG pc = false) :
    PcT cfg ⟨.list, pc⟩ :=
  ⟨fun h => (by rw [hw, hp] at h; cases h <;> contradiction), fun _ => rfl, fun h => (by rw [hg] at h; cases h)⟩

theorem PcT.get {cfg : Cfg} {k : Bytes} {pc : PC} (hw : inW pc = false) (hp : pend pc = false) (hl : isL pc = false) :
    PcT cfg ⟨.get k, pc⟩ :=
  ⟨fun h => (by rw [hw, hp] at h; cases h <;> contradiction), fun h => (by rw [hl] at h; cases h), fun _ => ⟨k, rfl⟩⟩

/-- a step stays inside its section of the program, enters one from `start` under the matching
guard, or returns -/
theorem PcT.step {v : Variant} {cfg : Cfg} {σ σ₁ : State} {i : Nat} {op : Op} {pc pc' : PC}
    (hs : Step v cfg σ i op pc σ₁ pc') (hc : PcT cfg ⟨op, pc⟩) : PcT cfg ⟨op, pc'⟩ := by
  cases hs
  case lock hm hr _ _ => exact .mut rfl rfl ⟨hm, hr⟩
  case read | remove | backup | fail | temp | commit | unlock => exact .mut rfl rfl (hc.1 (.inl rfl))
  case listLock hop _ => exact hop ▸ .list rfl rfl rfl
  case listRead => cases (hc.2.1 rfl : op = .list); exact .list rfl rfl rfl
  case miss k hop => exact hop ▸ .get rfl rfl rfl
  case rootFetched | getLock | getRead | getSome => obtain ⟨k, rfl⟩ := hc.2.2 rfl; exact .get rfl rfl rfl
  case hit | refuse | unlockFailed | cache | getNone | store | drop | listDone => exact .free rfl rfl rfl rfl

def TInv (cfg : Cfg) (σ : State) : Prop := ∀ (i : Nat) (c : Call), σ.calls[i]? = some c → PcT cfg c

theorem TInv.act {v : Variant} {cfg : Cfg} {σ : State} (hT : TInv cfg σ) (a : Act) : TInv cfg (act v cfg σ a) := by
  cases a with
  | step i =>
    exact stepAt_ind hT fun hi hs =>
      forall_setCall hs.calls (PcT.step hs (hT i _ hi)) fun j cj _ hj => hT j cj hj
  | tick n => exact hT
  | gc => exact hT
  | invoke op => exact forall_invoke (.free rfl rfl rfl rfl) hT

theorem TInv.init (cfg : Cfg) (s : Store) (now : Nat) : TInv cfg (init s now) :=
  fun _ _ hi => (nomatch hi)

end Vgw.Model.IAM
