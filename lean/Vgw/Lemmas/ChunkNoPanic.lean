/-
  The signed reader (as of /repo 7242bc4) never panics: whatever bytes arrive in whatever pieces.
-/
import Vgw.Lemmas.ChunkMerge
namespace Vgw.Lemmas.ChunkNoPanic
open Vgw Vgw.Model Vgw.Model.ChunkSigned Vgw.Lemmas.ChunkParse Vgw.Lemmas.ChunkMerge

/-- what is in the stash is an incomplete header -/
def StashInv (cfg : Cfg) (st : State) : Prop :=
  st.stash = [] ∨ parseHeader cfg st.isFirstHeader st.stash = .error (.rd .eof)

/-- the invariant of the reader between two `Read`s -/
def Inv (cfg : Cfg) (st : State) : Prop := 0 ≤ st.chunkDataLeft ∧ StashInv cfg st

/-- the data of a chunk begins inside the buffer: `0 ≤ bufOffset ≤ len(p)` -/
theorem hdr_inv {cfg : Cfg} {st st2 : State} {p : Bytes} {res : HdrRes} (hs : StashInv cfg st)
    (hh : parseChunkHeaderBytes cfg st p = (st2, res)) :
    (res = .skip → StashInv cfg st2) ∧
    ∀ size sig off, res = .chunk size sig off → size ≠ 0 →
      0 < size ∧ 0 ≤ off ∧ off ≤ (p.length : Int) ∧ st2.stash = [] := by
  rw [hdr_eq] at hh
  split at hh
  · cases hh; exact ⟨nofun, nofun⟩
  generalize hp : parseHeader cfg st.isFirstHeader (st.stash ++ p) = x at hh
  revert hp hh
  fun_cases hdrOf cfg st p x with
  | case2 => intro hp hh; cases hh; exact ⟨fun _ => .inr hp, nofun⟩
  | case5 r rest hz => intro _ hh; cases hh; exact ⟨nofun, fun _ _ _ h hne => absurd (by cases h; rfl) hne⟩
  | case6 r rest hz =>
    intro hp hh
    cases hh
    refine ⟨nofun, fun _ _ _ h _ => ?_⟩
    cases h
    have h0 := (parseHeader_ok hp).2.1
    -- the parse ends behind the stash
    have : rest.length ≤ p.length := by
      rcases hs with hs | hs
      · obtain ⟨C, hC, _⟩ := (parseHeader_ok hp).1
        have := congrArg List.length hC
        simp only [hs, List.nil_append, List.length_append] at this
        omega
      · exact Nat.le_of_lt (parseHeader_needMore_then_ok hs hp)
    exact ⟨by omega, by omega, by omega, rfl⟩
  | _ => intro _ hh; cases hh; exact ⟨nofun, nofun⟩

theorem par_no_panic (cfg : Cfg) : ∀ (f : Nat) (st : State) (p : Bytes), StashInv cfg st →
    (parseAndRemove cfg f st p).2.status ≠ .panic ∧
    ((parseAndRemove cfg f st p).2.status = .nil → Inv cfg (parseAndRemove cfg f st p).1) := by
  intro f
  induction f with
  | zero => intro st p _; simp [parseAndRemove]
  | succ f ih =>
    intro st p hs
    rw [parseAndRemove]
    cases hchk : pendingCheck cfg st with
    | error x => rw [parStep_error _ p hchk]; simp
    | ok stc =>
      rw [parStep_ok _ p hchk]
      obtain ⟨_, hss, hfs, _⟩ := pendingCheck_fields hchk
      have hsc : StashInv cfg stc := by unfold StashInv; rw [hss, hfs]; exact hs
      cases hh : parseChunkHeaderBytes cfg stc p with
      | mk st2 res =>
      obtain ⟨hskip, hchunk⟩ := hdr_inv hsc hh
      cases res with
      | skip =>
        rw [parBody_skip _ hh]
        exact ⟨by simp, fun _ => ⟨Int.le_refl 0, hskip rfl⟩⟩
      | fail e => rw [parBody_fail _ hh]; simp
      | chunk size sig off =>
        by_cases hsig : sig = []
        · subst hsig; rw [parBody_nosig _ hh]; simp
        by_cases hz : size = 0
        · subst hz
          rw [parBody_final _ hh hsig]
          exact ⟨finalChunk_not_panic cfg _, fun h => absurd h (finalChunk_not_nil cfg _)⟩
        obtain ⟨hpos, ho0, hol, hst2⟩ := hchunk size sig off rfl hz
        rw [parBody_chunk _ hh hsig hz]
        fun_cases cont cfg (parseAndRemove cfg f) { st2 with parsedSig := sig } size off p with
        | case1 => omega
        | case2 => omega
        | case3 =>
          have := ih (hashWrite cfg { ({ st2 with parsedSig := sig } : State) with chunkDataLeft := 0 }
              ((p.drop off.toNat).take size.toNat)) ((p.drop off.toNat).drop size.toNat) (.inl hst2)
          obtain ⟨j1, j2⟩ := joinRec_props size ((p.drop off.toNat).take size.toNat) _ this.1
          refine ⟨j1, fun h => ?_⟩
          obtain ⟨k1, k2⟩ := j2 h
          rw [k2]
          exact this.2 k1
        | case4 _ hle =>
          refine ⟨nofun, fun _ => ⟨?_, .inl hst2⟩⟩
          show (0 : Int) ≤ size - ((p.drop off.toNat).length : Int)
          omega

theorem read_no_panic (cfg : Cfg) (st : State) (frag : Bytes) (e : Bool) (cap : Nat) (h : Inv cfg st) :
    (ChunkSigned.read cfg st frag e cap).2.status ≠ .panic ∧
    ((ChunkSigned.read cfg st frag e cap).2.status = .nil → Inv cfg (ChunkSigned.read cfg st frag e cap).1) := by
  obtain ⟨hc, hs⟩ := h
  by_cases hin : st.chunkDataLeft < (frag.length : Int)
  · rw [read_hdr cfg st frag e cap hc hin, prepend_status, prepend_fst]
    exact par_no_panic cfg (frag.length + 1) (hashWrite cfg (setE e st) (frag.take st.chunkDataLeft.toNat))
      (frag.drop st.chunkDataLeft.toNat) hs
  · rw [read_data cfg st frag e cap (by omega)]
    refine ⟨by cases e <;> simp, fun _ => ⟨?_, hs⟩⟩
    show 0 ≤ st.chunkDataLeft - (frag.length : Int)
    omega

/-- **A run of the signed reader never ends in a panic**: arbitrary bytes, arbitrary deliveries. -/
theorem runFrom_no_panic (cfg : Cfg) : ∀ (ds : List (Bytes × Bool)) (st : State) (acc : Bytes), Inv cfg st →
    (runFrom cfg st ds acc).2 ≠ .panic := by
  intro ds
  induction ds with
  | nil => intro st acc h; rw [runFrom_nil cfg st acc h.1]; simp
  | cons d ds ih =>
    intro st acc h
    obtain ⟨f, e⟩ := d
    obtain ⟨h1, h2⟩ := read_no_panic cfg st f e f.length h
    rw [runFrom_cons]
    unfold tail
    split
    · next hs => exact ih _ _ (h2 hs)   -- nil: the run goes on
    · contradiction                      -- panic: excluded by `h1`
    · nofun                              -- fuel
    · next hp _ => exact hp              -- any other status ends the run with it

end Vgw.Lemmas.ChunkNoPanic
