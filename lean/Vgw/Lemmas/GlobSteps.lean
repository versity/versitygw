/-
  C20: the two-pointer wildcard matcher `Model.Glob.loop` (Resources.Match, C14) does a bounded
  number of iterations: `loopSteps` counts them with the same control flow, and
  `loopSteps_le` bounds them by |s|·(|s|+|p|+1) + |s| + |p| — quadratic, whatever the number of `*`.
-/
import Vgw.Model.Glob
namespace Vgw.Model.Glob
open Vgw

/-- iterations of the first loop of `Resources.Match` from a given state (same tests as `loop`) -/
def loopSteps (p s : Bytes) (pi si : Nat) (st : Option Nat) (mi : Nat) (h : mi ≤ si) : Nat :=
  if hs : si < s.length then
    if hq : pi < p.length ∧ p[pi]? = some star then
      1 + loopSteps p s (pi + 1) si (some pi) si (by omega)
    else if hp : pi < p.length ∧ (p[pi]? = some qmark ∨ p[pi]? = some s[si]) then
      1 + loopSteps p s (pi + 1) (si + 1) st mi (by omega)
    else
      match st with
      | some k => 1 + loopSteps p s (k + 1) (mi + 1) (some k) (mi + 1) (by omega)
      | none => 1
  else 0
termination_by (s.length - mi, (s.length - si) + (p.length - pi))
decreasing_by
  · rcases Nat.lt_or_eq_of_le h with hlt | heq
    · apply Prod.Lex.left; omega
    · subst heq
      apply Prod.Lex.right'
      · omega
      · omega
  · apply Prod.Lex.right'
    · omega
    · omega
  · apply Prod.Lex.left; omega

/-- a step that moves `mi` on pays |s| + |p| + 1, which covers the reset of `si` and `pi` -/
theorem loopSteps_inv (p s : Bytes) (pi si : Nat) (st : Option Nat) (mi : Nat) (h : mi ≤ si) (hpi : pi ≤ p.length)
    (hsi : si ≤ s.length) (hst : ∀ k, st = some k → k < p.length) :
    loopSteps p s pi si st mi h + mi * (s.length + p.length + 1) + si + pi ≤
      s.length * (s.length + p.length + 1) + s.length + p.length := by
  -- with a name for the factor the products are atoms of the linear arithmetic
  suffices ∀ B, B = s.length + p.length + 1 →
      loopSteps p s pi si st mi h + mi * B + si + pi ≤ s.length * B + s.length + p.length from this _ rfl
  intro B hB
  fun_induction loopSteps p s pi si st mi h with
  | case1 pi si st mi h hs hq ih =>
    have ih := ih (by omega) hsi (by intro k hk; cases hk; exact hq.1)
    have hm := Nat.mul_le_mul_right B h
    omega
  | case2 pi si st mi h hs hq hp ih =>
    have ih := ih (by omega) (by omega) hst
    omega
  | case3 pi si mi h hs hq hp k _ ih =>
    have hk := hst k rfl
    have ih := ih (by omega) (by omega) (by intro k' hk'; cases hk'; exact hk)
    rw [Nat.succ_mul] at ih
    omega
  | case4 pi si mi h hs hq hp _ =>
    have hm : (mi + 1) * B ≤ s.length * B := Nat.mul_le_mul_right _ (by omega)
    rw [Nat.succ_mul] at hm
    omega
  | case5 pi si st mi h hs =>
    have hm := Nat.mul_le_mul_right B (Nat.le_trans h hsi)
    omega

theorem loopSteps_le (p s : Bytes) :
    loopSteps p s 0 0 none 0 (Nat.le_refl 0) ≤ s.length * (s.length + p.length + 1) + s.length + p.length := by
  have := loopSteps_inv p s 0 0 none 0 (Nat.le_refl 0) (Nat.zero_le _) (Nat.zero_le _) (by intro k hk; cases hk)
  omega

end Vgw.Model.Glob
